import Cpppo.Model.ClientOps
import Cpppo.Proofs.ClientPath
/-! `parse_operations` on the rendering of a structured operation description (property C12). -/
namespace Cpppo.Client
open Cpppo.Py

structure Place where
  elem : Option Nat := none
  count : Option Nat := none
  star : Bool := false          -- the count is written `*<count>` instead of as a range `[a-b]`

/-- a range needs an element and a positive count; `*count` needs the count -/
def Place.Ok (w : Place) : Prop :=
  if w.star then w.count.isSome = true
  else (∀ c, w.count = some c → 0 < c) ∧ (w.count.isSome = true → w.elem.isSome = true)

instance (w : Place) : Decidable w.Ok := by
  have : Decidable (∀ c, w.count = some c → 0 < c) :=
    inferInstanceAs (Decidable (∀ c ∈ w.count, 0 < c))
  unfold Place.Ok
  infer_instance

def Place.text (w : Place) : Str :=
  if w.star then
    bracketText w.elem none ++ (match w.count with
      | some c => '*' :: decimal c
      | none => [])
  else bracketText w.elem w.count

def Place.E (w : Place) : Option Int := w.elem.map fun e => (e : Int)
def Place.C (w : Place) : Option Int := w.count.map fun c => (c : Int)

theorem place_tail (w : Place) (hw : w.Ok) : TailParses w.text w.E w.C := by
  obtain ⟨elem, count, star⟩ := w
  cases star with
  | true =>
    cases count with
    | none => simp [Place.Ok] at hw
    | some c => exact star_tail elem c
  | false =>
    simp only [Place.Ok, Bool.false_eq_true, if_false] at hw
    have h := bracket_tail elem count hw.1
    -- a count comes with an element, so the count that the bracket yields is the count itself
    cases elem with
    | some e => exact h
    | none =>
      cases count with
      | none => exact h
      | some c => simp at hw

/-- no blank, no '=' and no '+': text that the first two splits of `parse_operations` leave alone -/
def Clean (s : Str) : Prop := ∀ c ∈ s, isSpace c = false ∧ c ≠ '=' ∧ c ≠ '+'

theorem Clean.append {a b : Str} (ha : Clean a) (hb : Clean b) : Clean (a ++ b) :=
  List.forall_mem_append.mpr ⟨ha, hb⟩

theorem _root_.Cpppo.Py.Over.clean {S : List Char} {s : Str} (h : Over S s)
    (hS : ∀ c ∈ S, isSpace c = false ∧ c ≠ '=' ∧ c ≠ '+') : Clean s := by
  intro c hc
  rcases h c hc with hal | hp
  · exact ⟨alnum_not_space hal, alnum_ne_special hal (by decide), alnum_ne_special hal (by decide)⟩
  · exact hS c hp

theorem clean_decimal (n : Nat) : Clean (decimal n) := (over_decimal [] n).clean (by decide +kernel)

theorem over_place (w : Place) : Over ['[', '-', ']', '*'] w.text := by
  fun_cases Place.text w
  · refine ((over_bracket _ _).mono (by decide +kernel)).append ?_
    cases w.count with
    | none => exact Over.nil
    | some c => exact Over.cons (by decide) (over_decimal _ c)
  · exact (over_bracket _ _).mono (by decide +kernel)

theorem clean_place (w : Place) : Clean w.text := (over_place w).clean (by decide +kernel)

/-- a tag name usable in an operation text: a `NameOk` name without blanks, '=' and '+' -/
def TagOk (n : Str) : Prop := NameOk n ∧ Clean n

instance (n : Str) : Decidable (TagOk n) := by
  unfold TagOk Clean; infer_instance

def PathBody.OpOk : PathBody → Prop
  | PathBody.symbolic n ms => ∀ m ∈ n :: ms, TagOk m
  | PathBody.numeric _ rest => rest.length ≤ 2

instance (b : PathBody) : Decidable b.OpOk := by
  cases b <;> simp only [PathBody.OpOk] <;> infer_instance

theorem PathBody.OpOk.ok {b : PathBody} (h : b.OpOk) : b.Ok := by
  cases b with
  | symbolic n ms => exact fun m hm => (h m hm).1
  | numeric c rest => exact h

theorem clean_dotted (n : Str) (ms : List Str) (h : ∀ m ∈ n :: ms, Clean m) : Clean (dotted n ms) := by
  induction ms generalizing n with
  | nil => simpa [dotted] using h n List.mem_cons_self
  | cons m ms ih =>
    simp only [dotted]
    exact Clean.append (h n List.mem_cons_self) (List.forall_mem_cons.mpr ⟨by decide,
      ih m fun x hx => h x (List.mem_cons_of_mem _ hx)⟩)

theorem clean_body (b : PathBody) (h : b.OpOk) : Clean b.text := by
  cases b with
  | symbolic n ms => exact clean_dotted n ms (fun m hm => (h m hm).2)
  | numeric c rest => exact (over_std c rest).clean (by decide +kernel)

theorem Clean.strip {s : Str} (h : Clean s) : strip s = s := strip_plain s (fun c hc => (h c hc).1)

theorem Clean.noEq {s : Str} (h : Clean s) : '=' ∉ s := fun hm => (h '=' hm).2.1 rfl
theorem Clean.noPlus {s : Str} (h : Clean s) : '+' ∉ s := fun hm => (h '+' hm).2.2 rfl

theorem over_decimalInt (v : Int) : Over ['-'] (decimalInt v) := by
  fun_cases decimalInt v
  · exact Over.cons (by decide) (over_decimal _ _)
  · exact over_decimal _ _

theorem pyInt10_decimalInt (v : Int) : pyInt10 (decimalInt v) = some v := by
  fun_cases decimalInt v
  · rename_i hneg
    rw [pyInt10, strip_plain _ ((Over.cons (S := ['-']) (by decide) (over_decimal _ _)).no_space (by decide))]
    simp only [splitSign, decimal, pyDigits_render 10 (by omega) (by omega), Option.map_some, applySign, if_true]
    congr 1
    omega
  · rename_i hneg
    rw [pyInt10_decimal]
    congr 1
    omega

def valuesText (vals : List Int) : Str := joinWith ',' (vals.map decimalInt)

theorem over_values (vals : List Int) : Over ['-', ','] (valuesText vals) := by
  unfold valuesText
  induction vals with
  | nil => exact Over.nil
  | cons v vs ih =>
    have hv := (over_decimalInt v).mono (T := ['-', ',']) (by decide)
    cases vs with
    | nil => exact hv
    | cons w ws => exact hv.append (Over.cons (by decide) ih)

theorem decimalInt_ne_nil (v : Int) : decimalInt v ≠ [] := by
  fun_cases decimalInt v
  · simp
  · exact decimal_ne_nil _

theorem dropSpace_decimalInt (v : Int) : (decimalInt v).dropWhile (· == ' ') = decimalInt v := by
  cases h : decimalInt v with
  | nil => rfl
  | cons c cs =>
    have hc : c ≠ ' ' := fun hc => (over_decimalInt v).not_mem (d := ' ') (by decide) (by decide) (by simp [h, hc])
    simp [List.dropWhile, beq_eq_false_iff_ne.mpr hc]

theorem csvRow_values (vals : List Int) :
    csvRow (valuesText vals) = Except.ok (vals.map decimalInt) := by
  have hbad : (valuesText vals).any (fun c => c == '"' || (c.toNat < 32 && c != '\t')) = false := by
    rw [List.any_eq_false]
    intro c hc
    rcases over_values vals c hc with hal | hp
    · have h32 := alnum_toNat hal
      rw [beq_eq_false_iff_ne.mpr (alnum_ne_special hal (by decide)), decide_eq_false (by omega)]
      simp
    · exact (by decide : ∀ c ∈ ['-', ','], ¬ (c == '"' || (decide (c.toNat < 32) && c != '\t')) = true) c hp
  unfold csvRow
  rw [hbad]
  simp only [Bool.false_eq_true, if_false]
  cases vals with
  | nil => rfl
  | cons v vs =>
    have hne : valuesText (v :: vs) ≠ [] := by
      cases vs <;> simp [valuesText, joinWith, decimalInt_ne_nil v]
    have hsep : ∀ y ∈ (v :: vs).map decimalInt, ',' ∉ y := fun y hy hm => by
      obtain ⟨x, _, rfl⟩ := List.mem_map.mp hy
      exact (over_decimalInt x).not_mem (by decide) (by decide) hm
    rw [if_neg hne, show splitAll ',' (valuesText (v :: vs)) = (v :: vs).map decimalInt from
      splitAll_joinWith ',' _ _ hsep]
    simp [pure, Except.pure, Function.comp_def, dropSpace_decimalInt]

theorem mapExcept_castVal (lo hi : Int) (vals : List Int) (h : ∀ v ∈ vals, lo ≤ v ∧ v ≤ hi) :
    mapExcept (castVal (Kind.int lo hi)) (vals.map decimalInt) = Except.ok (vals.map Val.int) := by
  induction vals with
  | nil => rfl
  | cons v vs ih =>
    have hv : castVal (Kind.int lo hi) (decimalInt v) = Except.ok (Val.int v) := by
      simp [castVal, pyInt10_decimalInt, h v List.mem_cons_self]
      rfl
    simp only [List.map_cons, mapExcept, hv, ih (fun x hx => h x (List.mem_cons_of_mem _ hx))]

structure WriteSpec where
  ty : CipType
  lo : Int
  hi : Int
  vals : List Int

structure OpSpec where
  body : PathBody
  place : Place := {}
  offset : Option Nat := none
  write : Option WriteSpec := none

def offsetText : Option Nat → Str
  | some o => '+' :: decimal o
  | none => []

def writeText : Option WriteSpec → Str
  | some w => '=' :: '(' :: w.ty.name ++ ')' :: valuesText w.vals
  | none => []

/-- the text that spells the operation: `<path><where>[+<offset>][=(<TYPE>)<v>,<v>...]` -/
def OpSpec.text (s : OpSpec) : Str :=
  s.body.text ++ s.place.text ++ offsetText s.offset ++ writeText s.write

def OpSpec.elements (fragment : Bool) (s : OpSpec) : Option Int :=
  match s.write with
  | some w =>
    if s.offset = none ∧ fragment = false then some (s.place.C.getD (w.vals.length : Int))
    else s.place.C
  | none => s.place.C

def OpSpec.denote (fragment : Bool) (s : OpSpec) : OpD :=
  { write := s.write.isSome
    offset := s.offset.map fun o => (o : Int)
    path := withElem s.body.segs s.place.E
    elements := s.elements fragment
    tagType := s.write.map fun w => w.ty.tagType
    data := s.write.map fun w => w.vals.map Val.int }

/-- the write part is well-formed for the type table: a listed integer type written by its
(upper-case, alphanumeric) name, values within the validator's range, and a count that is
consistent with the number of values -/
def WriteSpec.Ok (types : List CipType) (fragment : Bool) (offset : Option Nat) (C : Option Int)
    (w : WriteSpec) : Prop :=
  lookupType types w.ty.name = some w.ty
  ∧ upper w.ty.name = w.ty.name
  ∧ (∀ c ∈ w.ty.name, isAlnum c = true)
  ∧ w.ty.kind = Kind.int w.lo w.hi
  ∧ (∀ v ∈ w.vals, w.lo ≤ v ∧ v ≤ w.hi)
  ∧ (if offset = none ∧ fragment = false then C = none ∨ C = some (w.vals.length : Int)
     else ∃ el : Int, C = some el ∧ 0 < w.ty.size
        ∧ ((offset.getD 0 : Nat) : Int) % (w.ty.size : Int) = 0
        ∧ ((offset.getD 0 : Nat) : Int) / (w.ty.size : Int) + (w.vals.length : Int) ≤ el)

def OpSpec.Ok (types : List CipType) (fragment : Bool) (intType : Str) (s : OpSpec) : Prop :=
  s.body.OpOk ∧ s.place.Ok
  ∧ (∀ w, s.write = some w →
      (lookupType types (upper (strip intType))).isSome = true
      ∧ w.Ok types fragment s.offset s.place.C)

theorem checkCounts_ok (fragment : Bool) (offset : Option Nat) (C : Option Int) (w : WriteSpec)
    (types : List CipType) (hw : w.Ok types fragment offset C) (op : OpD)
    (hoff : op.offset = offset.map fun o => (o : Int)) (hel : op.elements = C) :
    checkCounts fragment w.ty.size op w.vals.length
      = Except.ok { op with elements :=
          if offset = none ∧ fragment = false then some (C.getD (w.vals.length : Int)) else C } := by
  obtain ⟨_, _, _, _, _, hcnt⟩ := hw
  obtain ⟨wr, off, path, els, tt, data⟩ := op
  simp only at hoff hel
  subst hoff hel
  unfold checkCounts
  by_cases hc : offset = none ∧ fragment = false
  · obtain ⟨rfl, rfl⟩ := hc
    rw [if_pos ⟨rfl, rfl⟩] at hcnt
    rcases hcnt with rfl | rfl <;> simp <;> rfl
  · rw [if_neg hc] at hcnt
    obtain ⟨el, rfl, hsz, hmod, hdiv⟩ := hcnt
    have hcond : ¬ (offset.map (fun o => (o : Int)) = none ∧ fragment = false) := by
      intro h
      refine hc ⟨?_, h.2⟩
      cases offset with
      | none => rfl
      | some o => cases h.1
    have hget : (offset.map fun o => (o : Int)).getD 0 = ((offset.getD 0 : Nat) : Int) := by
      cases offset <;> rfl
    simp only [hcond, hc, if_false, Nat.ne_of_gt hsz, hget, hmod, hdiv, ne_eq, not_true_eq_false, if_true]
    rfl

def NoSpEq (s : Str) : Prop := ∀ c ∈ s, isSpace c = false ∧ c ≠ '='

theorem NoSpEq.of_clean {s : Str} (h : Clean s) : NoSpEq s := fun c hc => ⟨(h c hc).1, (h c hc).2.1⟩

theorem NoSpEq.append {a b : Str} (ha : NoSpEq a) (hb : NoSpEq b) : NoSpEq (a ++ b) :=
  List.forall_mem_append.mpr ⟨ha, hb⟩

theorem noSpEq_offset (o : Option Nat) : NoSpEq (offsetText o) := by
  cases o with
  | none => intro c hc; cases hc
  | some n => exact List.forall_mem_cons.mpr ⟨⟨by decide, by decide⟩, NoSpEq.of_clean (clean_decimal n)⟩

/-- the value part of a write: `(<TYPE>)<v>,<v>...` -/
def rhsText (w : WriteSpec) : Str := '(' :: w.ty.name ++ ')' :: valuesText w.vals

theorem over_rhs (w : WriteSpec) (hn : ∀ c ∈ w.ty.name, isAlnum c = true) :
    Over ['(', ')', '-', ','] (rhsText w) :=
  Over.cons (by decide) ((Over.of_alnum hn).append
    (Over.cons (by decide) ((over_values w.vals).mono (by decide))))

theorem parseValues_rhs (types : List CipType) (fragment : Bool) (intType : Str) (op : OpD)
    (w : WriteSpec) (hint : (lookupType types (upper (strip intType))).isSome = true)
    {offset : Option Nat} {C : Option Int} (hw : w.Ok types fragment offset C) :
    parseValues types fragment intType op (rhsText w)
      = checkCounts fragment w.ty.size
          { op with tagType := some w.ty.tagType, data := some (w.vals.map Val.int) }
          w.vals.length := by
  obtain ⟨h1, h2, h3, h4, h5, _⟩ := hw
  have hch := over_rhs w h3
  obtain ⟨ty0, hty0⟩ := Option.isSome_iff_exists.mp hint
  have hdef : defaultType types intType (rhsText w) = Except.ok ty0 := by
    simp [defaultType, hch.not_mem (d := '.') (by decide) (by decide), hty0]
  have hclose : ')' ∉ '(' :: w.ty.name :=
    (Over.cons (S := ['(']) (by decide) (Over.of_alnum h3)).not_mem (by decide) (by decide)
  have hsplit : splitFirst ')' (rhsText w) = some ('(' :: w.ty.name, valuesText w.vals) :=
    splitFirst_append ')' ('(' :: w.ty.name) _ hclose
  have hcast : castSplit types ty0 (rhsText w) = Except.ok (w.ty, valuesText w.vals) := by
    have hst : startsWith (strip (rhsText w)) '(' = true := by
      rw [strip_plain _ (hch.no_space (by decide))]; rfl
    have hcon : ')' ∈ rhsText w := by simp [rhsText]
    simp [castSplit, hst, hcon, hsplit, splitFirst, strip_alnum _ h3, h2, h1]
  simp only [parseValues, hdef, hcast, csvRow_values, h4, mapExcept_castVal w.lo w.hi w.vals h5,
    List.length_map]

theorem splitEq_spec (s : OpSpec) (hb : s.body.OpOk)
    (hn : ∀ w, s.write = some w → ∀ c ∈ w.ty.name, isAlnum c = true) :
    splitEq s.text
      = (s.body.text ++ s.place.text ++ offsetText s.offset,
         (match s.write with
          | some w => rhsText w
          | none => []), s.write.isSome) := by
  have hL : NoSpEq (s.body.text ++ s.place.text ++ offsetText s.offset) :=
    NoSpEq.append (NoSpEq.of_clean (Clean.append (clean_body s.body hb) (clean_place s.place)))
      (noSpEq_offset s.offset)
  have hnoeq : '=' ∉ s.body.text ++ s.place.text ++ offsetText s.offset :=
    fun hm => (hL '=' hm).2 rfl
  have hstripL := strip_plain _ (fun c hc => (hL c hc).1)
  unfold splitEq OpSpec.text
  cases hw : s.write with
  | none =>
    simp only [writeText, List.append_nil, splitFirst_none _ _ hnoeq, Option.isSome_none]
  | some w =>
    rw [show writeText (some w) = '=' :: rhsText w from rfl, splitFirst_append _ _ _ hnoeq]
    simp only [hstripL, strip_plain _ ((over_rhs w (hn w hw)).no_space (by decide)), Option.isSome_some]

theorem splitOff_spec (s : OpSpec) (hb : s.body.OpOk) :
    splitOff (s.body.text ++ s.place.text ++ offsetText s.offset)
      = Except.ok (s.body.text ++ s.place.text, s.offset.map fun o => (o : Int)) := by
  have hP : Clean (s.body.text ++ s.place.text) := Clean.append (clean_body s.body hb) (clean_place s.place)
  unfold splitOff
  cases ho : s.offset with
  | none =>
    simp only [offsetText, List.append_nil, splitFirst_none _ _ hP.noPlus]
    rfl
  | some o =>
    have hd := clean_decimal o
    simp only [offsetText, splitFirst_append _ _ _ hP.noPlus, hd.strip, hP.strip, decimal_ne_nil o,
      if_false, pyInt10_decimal]
    rfl

end Cpppo.Client
