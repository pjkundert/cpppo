import Cpppo.Model.Route
/-! What the Python text primitives of `Model/Route.lean` (`strip`, `int()`, `split`/`join`, `ip_address`) do on
rendered integers and addresses, and what `port_link` and the two stages of `parse_route_path` make of the segments
so spelled.  `Link.WF` / `Seg.WF` say which links and segments the code can produce: they are the hypotheses of
every theorem about texts in `Props/C15`.  The file ends with `runAll`, the "all served" reading of a list of
frames that the session theorems are stated with. -/
namespace Cpppo.Route

theorem isDigit_iff {c : Nat} : isDigit c = true ↔ 48 ≤ c ∧ c ≤ 57 := by
  simp [isDigit]

theorem isDigit_add {k : Nat} (h : k < 10) : isDigit (48 + k) = true := isDigit_iff.mpr (by omega)

/-- the printable ASCII characters are stripped neither by `str.strip()` nor by `int()` -/
theorem not_space {c : Nat} (h : 33 ≤ c ∧ c ≤ 126) : isSpace c = false ∧ isIntSpace c = false := by
  simp [isSpace, isIntSpace]; omega

theorem lstripBy_id {p : Nat → Bool} {t : Text} (h : ∀ c ∈ t, p c = false) : lstripBy p t = t := by
  fun_induction lstripBy p t with
  | case1 | case3 => rfl  -- empty; first character kept
  | case2 c cs hc => simp [h c List.mem_cons_self] at hc  -- first character stripped

theorem stripBy_id {p : Nat → Bool} {t : Text} (h : ∀ c ∈ t, p c = false) : stripBy p t = t := by
  unfold stripBy
  rw [lstripBy_id h, lstripBy_id (by simpa using h)]
  simp

-- branches of `natDigits`: 1 no fuel, 2 a single digit (`n < 10`), 3 the digits of `n / 10` and one more
theorem natDigits_digits (f n : Nat) : ∀ c ∈ natDigits f n, isDigit c = true := by
  fun_induction natDigits f n with
  | case1 => simp
  | case2 _ _ h => simp [isDigit_add h]
  | case3 _ n _ ih =>
    exact List.forall_mem_append.mpr ⟨ih, fun _ hc => List.mem_singleton.mp hc ▸ isDigit_add (Nat.mod_lt n (by decide))⟩

theorem natDigits_ne_nil (f n : Nat) : natDigits (f + 1) n ≠ [] := by
  unfold natDigits; split <;> simp

theorem decVal_append (a : Text) (c : Nat) : decVal (a ++ [c]) = decVal a * 10 + (c - 48) := by
  simp [decVal, List.foldl_append]

/-- with fuel enough the digits are those of `n`, without a leading zero: only `0` itself starts with `0` -/
theorem natDigits_spec (f n : Nat) (h : n < f) :
    decVal (natDigits f n) = n ∧ ∃ d ds, natDigits f n = d :: ds ∧ (d = 48 → n = 0) := by
  fun_induction natDigits f n with
  | case1 => omega
  | case2 => exact ⟨by simp [decVal], _, [], rfl, Nat.add_left_cancel (k := 0)⟩
  | case3 f n h10 ih =>
    obtain ⟨hv, d, ds, he, h0⟩ := ih (by omega)
    -- the first digit is that of `n / 10`, which is not `0`
    exact ⟨by rw [decVal_append, hv, Nat.add_sub_cancel_left, Nat.mul_comm, Nat.div_add_mod],
      d, ds ++ [48 + n % 10], by rw [he]; rfl,
      fun e => absurd (h0 e) (Nat.ne_of_gt (Nat.div_pos (Nat.le_of_not_lt h10) (by decide)))⟩

theorem renderNat_digits (n : Nat) : ∀ c ∈ renderNat n, isDigit c = true := natDigits_digits _ _

theorem renderNat_ne_nil (n : Nat) : renderNat n ≠ [] := natDigits_ne_nil _ _

theorem decVal_renderNat (n : Nat) : decVal (renderNat n) = n := (natDigits_spec _ _ (by omega)).1

theorem renderNat_head (n : Nat) : ∃ c cs, renderNat n = c :: cs ∧ isDigit c = true := by
  obtain ⟨c, cs, he⟩ := List.exists_cons_of_ne_nil (renderNat_ne_nil n)
  exact ⟨c, cs, he, renderNat_digits n c (he ▸ List.mem_cons_self)⟩

/-- a rendered integer consists of `-` and digits: in particular no '/' -/
theorem renderInt_chars (n : Int) : ∀ x ∈ renderInt n, 45 ≤ x ∧ x ≤ 57 ∧ x ≠ 47 := by
  have hd : ∀ k, ∀ x ∈ renderNat k, 45 ≤ x ∧ x ≤ 57 ∧ x ≠ 47 := fun k x hx => by
    have := isDigit_iff.mp (renderNat_digits k x hx)
    omega
  cases n with
  | ofNat n => exact hd n
  | negSucc n => exact List.forall_mem_cons.mpr ⟨by omega, hd _⟩

theorem renderInt_head (n : Int) : ∃ c cs, renderInt n = c :: cs ∧ 45 ≤ c ∧ c ≤ 57 := by
  have hne : renderInt n ≠ [] := by
    cases n with
    | ofNat n => exact renderNat_ne_nil n
    | negSucc n => exact List.cons_ne_nil _ _
  obtain ⟨c, cs, he⟩ := List.exists_cons_of_ne_nil hne
  have := renderInt_chars n c (he ▸ List.mem_cons_self)
  exact ⟨c, cs, he, this.1, this.2.1⟩

-- branches of `digitsVal`: 1 end after a digit, 2 end otherwise, 3 a digit, 4 `_` after a digit, 5 anything else
theorem digitsVal_digits (t : Text) (acc : Nat) (st : DS) (hd : ∀ c ∈ t, isDigit c = true)
    (h : t ≠ [] ∨ st = .digit) :
    digitsVal t acc st = some (t.foldl (fun a c => a * 10 + (c - 48)) acc) := by
  fun_induction digitsVal t acc st with
  | case1 => rfl
  | case2 _ _ hst => exact (h.elim (· rfl) hst).elim
  | case3 c cs _ _ _ ih => exact ih (fun x hx => hd x (List.mem_cons_of_mem _ hx)) (Or.inr rfl)
  | case4 c _ _ _ hc => exact absurd (hd c List.mem_cons_self) hc
  | case5 c _ _ _ hc => exact absurd (hd c List.mem_cons_self) hc

theorem digitsVal_renderNat (n : Nat) : digitsVal (renderNat n) 0 .start = some n := by
  rw [digitsVal_digits _ _ _ (renderNat_digits n) (Or.inl (renderNat_ne_nil n))]
  exact congrArg some (decVal_renderNat n)

theorem digitsVal_bad (t : Text) (acc : Nat) (st : DS) (h : ∃ c ∈ t, isDigit c = false ∧ c ≠ 95) :
    digitsVal t acc st = none := by
  obtain ⟨x, hx, hd, h95⟩ := h
  fun_induction digitsVal t acc st with
  | case1 => cases hx
  | case2 | case5 => rfl
  | case3 c cs _ _ hc ih => exact ih ((List.mem_cons.mp hx).resolve_left fun e => by simp [e, hc] at hd)
  | case4 c cs _ _ _ hu ih => exact ih ((List.mem_cons.mp hx).resolve_left fun e => by simp [← e, h95] at hu)

theorem pyInt_unsigned {c : Nat} {cs : Text} (hs : ∀ x ∈ c :: cs, isIntSpace x = false) (h43 : c ≠ 43)
    (h45 : c ≠ 45) : pyInt (c :: cs) = (digitsVal (c :: cs) 0 .start).map Int.ofNat := by
  unfold pyInt
  rw [stripBy_id hs]
  split
  · rename_i heq; exact absurd (List.cons.inj heq).1 h43
  · rename_i heq; exact absurd (List.cons.inj heq).1 h45
  · rfl

theorem pyInt_renderInt (n : Int) : pyInt (renderInt n) = some n := by
  have hs : ∀ x ∈ renderInt n, isIntSpace x = false := fun x hx =>
    (not_space (by have := renderInt_chars n x hx; omega)).2
  cases n with
  | ofNat n =>
    obtain ⟨c, cs, he, hc⟩ := renderNat_head n
    have := isDigit_iff.mp hc
    have hv := digitsVal_renderNat n
    simp only [renderInt] at hs ⊢
    rw [he] at hs hv ⊢
    rw [pyInt_unsigned hs (by omega) (by omega), hv]
    rfl
  | negSucc n =>
    have hs' : stripBy isIntSpace (45 :: renderNat (n + 1)) = 45 :: renderNat (n + 1) := stripBy_id hs
    simp only [renderInt, pyInt, hs', digitsVal_renderNat, Option.map_some]
    rfl

theorem beq_false_of_not_mem_cons {sep c : Nat} {cs : Text} (h : sep ∉ c :: cs) :
    (c == sep) = false ∧ sep ∉ cs := by
  obtain ⟨h1, h2⟩ : sep ≠ c ∧ sep ∉ cs := by simpa using h
  exact ⟨beq_false_of_ne (Ne.symm h1), h2⟩

theorem splitFirst_append (sep : Nat) : ∀ (a b : Text), sep ∉ a → splitFirst sep (a ++ sep :: b) = some (a, b)
  | [], b, _ => by simp [splitFirst]
  | c :: cs, b, h => by
    obtain ⟨hc, h'⟩ := beq_false_of_not_mem_cons h
    simp [splitFirst, hc, splitFirst_append sep cs b h']

-- branches of `splitOn`: 1 empty text, 2 a separator, 3 a character joining the first part, 4 (no parts: impossible)
theorem splitOn_ne_nil (sep : Nat) (t : Text) : splitOn sep t ≠ [] := by
  fun_induction splitOn sep t <;> simp [*]

theorem splitOn_no_sep (sep : Nat) : ∀ t : Text, sep ∉ t → splitOn sep t = [t]
  | [], _ => rfl
  | c :: cs, h => by
    obtain ⟨hc, h'⟩ := beq_false_of_not_mem_cons h
    simp [splitOn, hc, splitOn_no_sep sep cs h']

theorem splitOn_append (sep : Nat) : ∀ (p rest : Text), sep ∉ p →
    splitOn sep (p ++ sep :: rest) = p :: splitOn sep rest
  | [], rest, _ => by simp [splitOn]
  | c :: cs, rest, h => by
    obtain ⟨hc, h'⟩ := beq_false_of_not_mem_cons h
    simp [splitOn, hc, splitOn_append sep cs rest h']

theorem splitOn_joinWith (sep : Nat) : ∀ parts : List Text, parts ≠ [] → (∀ p ∈ parts, sep ∉ p) →
    splitOn sep (joinWith sep parts) = parts
  | [p], _, h => splitOn_no_sep sep p (h p List.mem_cons_self)
  | p :: q :: ps, _, h => by
    rw [joinWith, splitOn_append sep p _ (h p List.mem_cons_self),
      splitOn_joinWith sep (q :: ps) (List.cons_ne_nil _ _) (fun x hx => h x (List.mem_cons_of_mem _ hx))]

theorem joinWith_cons_head (sep c : Nat) (p : Text) (ps : List Text) :
    joinWith sep ((c :: p) :: ps) = c :: joinWith sep (p :: ps) := by
  cases ps <;> rfl

theorem joinWith_splitOn (sep : Nat) (t : Text) : joinWith sep (splitOn sep t) = t := by
  fun_induction splitOn sep t with
  | case1 => rfl
  | case2 c cs hc ih =>
    obtain ⟨q, qs, hs⟩ := List.exists_cons_of_ne_nil (splitOn_ne_nil sep cs)
    rw [hs] at ih ⊢
    rw [joinWith, ih, eq_of_beq hc]
    rfl
  | case3 c cs _ p ps hs ih => exact (joinWith_cons_head sep c p ps).trans (congrArg _ (hs ▸ ih))
  | case4 _ cs _ hs => exact absurd hs (splitOn_ne_nil sep cs)

-- branches of `joinWith`: 1 no part, 2 one part, 3 a part, the separator and the rest
theorem mem_joinWith (sep : Nat) (parts : List Text) (c : Nat) (h : c ∈ joinWith sep parts) :
    c = sep ∨ ∃ p ∈ parts, c ∈ p := by
  fun_induction joinWith sep parts with
  | case1 => cases h
  | case2 p => exact Or.inr ⟨p, List.mem_cons_self, h⟩
  | case3 p q ps ih =>
    rcases List.mem_append.mp h with h | h
    · exact Or.inr ⟨p, List.mem_cons_self, h⟩
    · rcases List.mem_cons.mp h with h | h
      · exact Or.inl h
      · exact (ih h).imp_right fun ⟨x, hx, hc⟩ => ⟨x, List.mem_cons_of_mem _ hx, hc⟩

theorem octetOk_digits {o : Text} (h : octetOk o = true) : ∀ c ∈ o, isDigit c = true := by
  simp only [octetOk, Bool.and_eq_true] at h
  simpa [List.all_eq_true] using h.1.1.1.2

/-- what the code accepts as an IPv4 address consists of digits and dots, and contains a dot -/
theorem ipv4Ok_shape {t : Text} (h : ipv4Ok t = true) : (∀ c ∈ t, 46 ≤ c ∧ c ≤ 57 ∧ c ≠ 47) ∧ 46 ∈ t := by
  simp only [ipv4Ok, Bool.and_eq_true, beq_iff_eq, List.all_eq_true] at h
  obtain ⟨hlen, hall⟩ := h
  constructor
  · intro c hc
    rw [← joinWith_splitOn 46 t] at hc
    rcases mem_joinWith 46 _ c hc with h | ⟨p, hp, hcp⟩
    · omega
    · have := isDigit_iff.mp (octetOk_digits (hall p hp) c hcp)
      omega
  · -- a text without a dot is a single part, not four
    exact Decidable.by_contra fun hn => by simp [splitOn_no_sep 46 t hn] at hlen

/-- … so `int()` refuses it and `port_link` falls back to `ip_address` -/
theorem pyInt_ipv4 {t : Text} (h : ipv4Ok t = true) : pyInt t = none := by
  obtain ⟨hch, hdot⟩ := ipv4Ok_shape h
  obtain ⟨c, cs, rfl⟩ := List.exists_cons_of_ne_nil (List.ne_nil_of_mem hdot)
  have := hch c List.mem_cons_self
  have hs : ∀ x ∈ c :: cs, isIntSpace x = false := fun x hx =>
    (not_space (by have := hch x hx; omega)).2
  rw [pyInt_unsigned hs (by omega) (by omega), digitsVal_bad _ 0 .start ⟨46, hdot, rfl, by decide⟩]
  rfl

/-- a link the code can produce: any integer, or a text it accepts as an IPv4 address -/
def Link.WF : Link → Prop
  | .num _ => True
  | .addr s => ipv4Ok s = true

/-- a segment `port_link` can produce: positive port, well-formed link -/
def Seg.WF : Seg → Prop
  | .pl p l => 0 < p ∧ l.WF
  | .other _ _ => False

instance (l : Link) : Decidable l.WF := by cases l <;> unfold Link.WF <;> infer_instance
instance (s : Seg) : Decidable s.WF := by cases s <;> unfold Seg.WF <;> infer_instance

theorem Seg.WF.eq_pl {s : Seg} (h : s.WF) : ∃ p l, s = .pl p l ∧ 0 < p ∧ l.WF := by
  cases s with
  | pl p l => exact ⟨p, l, rfl, h⟩
  | other k v => exact h.elim

theorem toLink_linkJV (l : Link) (h : l.WF) : toLink (linkJV l) = some l := by
  cases l with
  | num n => simp [linkJV, toLink, toInt]
  | addr s => simp [linkJV, toLink, toInt, pyInt_ipv4 h, show ipv4Ok s = true from h]

theorem toLink_render (l : Link) (h : l.WF) : toLink (.str (renderLink l)) = some l := by
  cases l with
  | num n => simp [renderLink, toLink, toInt, pyInt_renderInt]
  | addr s => simp [renderLink, toLink, toInt, pyInt_ipv4 h, show ipv4Ok s = true from h]

theorem plPair_render (p : Int) (l : Link) (hp : 0 < p) (hl : l.WF) :
    plPair (.str (renderInt p)) (.str (renderLink l)) = some (.pl p l) := by
  simp [plPair, toInt, pyInt_renderInt, hp, toLink_render l hl]

theorem portLink_segJV (s : Seg) (h : s.WF) : portLink (segJV s) = some s := by
  obtain ⟨p, l, rfl, hp, hl⟩ := h.eq_pl
  have h1 : lookupLast kPort [(kPort, JV.int p), (kLink, linkJV l)] = some (JV.int p) := rfl
  have h2 : lookupLast kLink [(kPort, JV.int p), (kLink, linkJV l)] = some (linkJV l) := rfl
  simp [segJV, portLink, h1, h2, plPair, toInt, hp, toLink_linkJV l hl]

theorem stage2_map (g : Seg → JV) : ∀ segs : List Seg,
    (∀ s ∈ segs, truthy (g s) = true ∧ portLink (g s) = some s) → stage2 (segs.map g) = (segs, [])
  | [], _ => rfl
  | s :: rest, h => by
    obtain ⟨ht, hp⟩ := h s List.mem_cons_self
    simp [stage2, ht, hp, stage2_map g rest (fun x hx => h x (List.mem_cons_of_mem _ hx))]

theorem stage2_segs (segs : List Seg) (h : ∀ s ∈ segs, s.WF) : stage2 (segs.map segJV) = (segs, []) :=
  stage2_map segJV segs fun s hs => by
    obtain ⟨p, l, rfl, _⟩ := (h s hs).eq_pl
    exact ⟨rfl, portLink_segJV _ (h _ hs)⟩

theorem pairs_parts : ∀ segs : List Seg, (∀ s ∈ segs, s.WF) → pairs (segs.flatMap segParts) = (segs, [])
  | [], _ => by simp [pairs]
  | s :: rest, h => by
    obtain ⟨p, l, rfl, hp, hl⟩ := (h s List.mem_cons_self).eq_pl
    simp only [List.flatMap_cons, segParts, List.cons_append, List.nil_append]
    rw [pairs, plPair_render p l hp hl]
    simp [pairs_parts rest (fun x hx => h x (List.mem_cons_of_mem _ hx))]

theorem renderLink_chars (l : Link) (h : l.WF) : ∀ x ∈ renderLink l, 45 ≤ x ∧ x ≤ 57 ∧ x ≠ 47 := by
  cases l with
  | num n => exact renderInt_chars n
  | addr t => exact fun x hx => by have := (ipv4Ok_shape h).1 x hx; omega

/-- a spelled path starts with its first port and a '/' -/
theorem renderSlash_head (segs : List Seg) (hne : segs ≠ []) (hwf : ∀ s ∈ segs, s.WF) :
    ∃ p tail, renderSlash segs = renderInt p ++ 47 :: tail := by
  obtain ⟨s, rest, rfl⟩ := List.exists_cons_of_ne_nil hne
  obtain ⟨p, l, rfl, _⟩ := (hwf s List.mem_cons_self).eq_pl
  unfold renderSlash
  simp only [List.flatMap_cons, segParts, List.cons_append, List.nil_append]
  cases rest.flatMap segParts <;> exact ⟨_, _, rfl⟩

/-- … so with `-` or a digit: not with `[`, `{` or `"`, which `parse_route_path` takes for an attempt at JSON -/
theorem renderSlash_first (segs : List Seg) (hne : segs ≠ []) (hwf : ∀ s ∈ segs, s.WF) :
    ∃ c cs, renderSlash segs = c :: cs ∧ 45 ≤ c ∧ c ≤ 57 := by
  obtain ⟨p, tail, ht⟩ := renderSlash_head segs hne hwf
  obtain ⟨c, cs, hc, h⟩ := renderInt_head p
  exact ⟨c, cs ++ 47 :: tail, by rw [ht, hc]; rfl, h⟩

theorem renderSlash_isEmpty (segs : List Seg) (hne : segs ≠ []) (hwf : ∀ s ∈ segs, s.WF) :
    (renderSlash segs).isEmpty = false := by
  obtain ⟨c, cs, hc, _⟩ := renderSlash_first segs hne hwf
  rw [hc]; rfl

/-- the `except` branch on a spelled path: split at '/', pair up, nothing left over -/
theorem slash_renderSlash (segs : List Seg) (hne : segs ≠ []) (hwf : ∀ s ∈ segs, s.WF) :
    slash (renderSlash segs) = .ok segs [] := by
  obtain ⟨c, cs, hc, _⟩ := renderSlash_first segs hne hwf
  have hc' : c ≠ 91 ∧ c ≠ 123 ∧ c ≠ 34 := by omega
  have hparts : segs.flatMap segParts ≠ [] := fun e => by simp [renderSlash, e, joinWith] at hc
  have hsplit : splitOn 47 (renderSlash segs) = segs.flatMap segParts :=
    splitOn_joinWith 47 _ hparts fun t ht => by
      obtain ⟨s, hs, hts⟩ := List.mem_flatMap.mp ht
      obtain ⟨p, l, rfl, _, hl⟩ := (hwf s hs).eq_pl
      simp only [segParts, List.mem_cons, List.not_mem_nil, or_false] at hts
      rcases hts with rfl | rfl
      · exact fun h => (renderInt_chars p 47 h).2.2 rfl
      · exact fun h => (renderLink_chars l hl 47 h).2.2 rfl
  have hmap : (segs.map segJV).isEmpty = false := by simpa using hne
  unfold slash
  rw [hc]
  dsimp only
  rw [← hc, hsplit, pairs_parts _ hwf]
  simp [hc', joinWith, finish, hmap, stage2_segs _ hwf]

section
variable {σ ρ π : Type} (exec : σ → ρ → Option (σ × π)) (cfg : Config)

/-- executing a list of frames one after the other, when every one is accepted and succeeds -/
def runAll : σ → List (Option RoutePath × ρ) → Option σ
  | st, [] => some st
  | st, (rp, req) :: rest =>
    if accept cfg rp then
      match exec st req with
      | some (st', _) => runAll st' rest
      | none => none
    else none

theorem runAll_nil (st : σ) : runAll exec cfg st [] = some st := rfl

theorem runAll_cons (st : σ) (rp : Option RoutePath) (req : ρ) (rest : List (Option RoutePath × ρ)) :
    runAll exec cfg st ((rp, req) :: rest)
      = if accept cfg rp then
          match exec st req with
          | some (st', _) => runAll exec cfg st' rest
          | none => none
        else none := by
  rw [runAll]

theorem sessionWith_nil (st : σ) : sessionWith exec cfg st [] = (st, []) := rfl

theorem sessionWith_cons (st : σ) (rp : Option RoutePath) (req : ρ) (rest : List (Option RoutePath × ρ)) :
    sessionWith exec cfg st ((rp, req) :: rest)
      = if (serveWith exec cfg st rp req).2.status == 0 then
          ((sessionWith exec cfg (serveWith exec cfg st rp req).1 rest).1,
           (serveWith exec cfg st rp req).2 :: (sessionWith exec cfg (serveWith exec cfg st rp req).1 rest).2)
        else ((serveWith exec cfg st rp req).1, [(serveWith exec cfg st rp req).2]) := by
  rw [sessionWith]

end

end Cpppo.Route
