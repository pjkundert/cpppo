import Cpppo.Model.Dotdict

/-!
Object identities for C16 (`Cpppo.Dotdict.Heap`): `copyObj true`, that is `__copy__` after its `fix:`, builds
a structure all of whose mappings and lists are new cells (`copyObj_spec`).  An assignment through the copy
changes a cell reached from it, hence a new one (`walk_fresh`), and heaps that agree below a closed bound
denote the same there (`congr_below`): the original reads as before (`copy_independent`).  The copy traversal
itself only appends to a closed heap, which is an instance (`append_stable`).
`closedB` is the decidable form of `Closed` for the concrete heap of the witness in Props/C16.
-/
namespace Cpppo.Dotdict.Heap
open Cpppo.Dotdict

/-- the addresses a cell refers to -/
def children : Obj → List Nat
  | .int _ => []
  | .dict kvs => kvs.map (·.2)
  | .list xs => xs

/-- every address stored in a cell below `n` is below `n` -/
def ClosedBelow (n : Nat) (h : Heap) : Prop := ∀ b, b < n → ∀ a ∈ children (cell h b), a < n

def Closed (h : Heap) : Prop := ClosedBelow h.length h

theorem cell_append (h ext : Heap) (a : Nat) (ha : a < h.length) : cell (h ++ ext) a = cell h a := by
  simp [cell, List.getElem?_append_left ha]

theorem cell_append_new (h : Heap) (o : Obj) : cell (h ++ [o]) h.length = o := by
  simp [cell]

/-- the fuel is enough to walk the whole structure below `a` -/
def fits : Nat → Heap → Nat → Bool
  | 0, _, _ => false
  | f + 1, h, a => (children (cell h a)).all (fits f h)

/-- every mapping or list reachable from `a` lives at an address `≥ n` -/
def freshFrom (n : Nat) : Nat → Heap → Nat → Bool
  | 0, _, _ => true
  | f + 1, h, a =>
    match cell h a with
    | .int _ => true
    | o => decide (n ≤ a) && (children o).all (freshFrom n f h)

/-- `c` heads a structure that some fuel covers and whose mappings and lists are all at addresses `≥ n` -/
def Fresh (n : Nat) (h : Heap) (c : Nat) : Prop := ∃ f, freshFrom n f h c = true ∧ fits f h c = true

theorem Fresh.step {n : Nat} {h : Heap} {c : Nat} (hf : Fresh n h c) :
    ((∀ v, cell h c ≠ .int v) → n ≤ c) ∧ ∀ c' ∈ children (cell h c), Fresh n h c' := by
  obtain ⟨f, hfr, hfit⟩ := hf
  cases f with
  | zero => simp [fits] at hfit
  | succ f =>
    simp only [freshFrom, fits, List.all_eq_true] at hfr hfit
    split at hfr
    · rename_i v hv             -- an int: no children, and not a mutable cell
      simp [hv, children]
    · simp only [Bool.and_eq_true, decide_eq_true_eq, List.all_eq_true] at hfr
      exact ⟨fun _ => hfr.1, fun c' hc' => ⟨f, hfr.2 c' hc', hfit c' hc'⟩⟩

/-- a mutable cell reached by walking down from a fresh structure is fresh -/
theorem walk_fresh (n : Nat) (h : Heap) (path : List Step) (c a' : Nat) (hf : Fresh n h c)
    (hw : walk h c path = some a') (hne : ∀ v, cell h a' ≠ .int v) : n ≤ a' := by
  fun_induction walk h c path with
  | case1 c =>                            -- the path ends at `c`
    cases hw
    exact hf.step.1 hne
  | case2 c k r kvs hc c' hl ih =>        -- a key of the mapping at `c` leads to `c'`
    obtain ⟨l₁, l₂, rfl, _⟩ := List.lookup_eq_some_iff.1 hl
    exact ih (hf.step.2 c' (by simp [hc, children])) hw
  | case5 c i r xs hc c' hl ih =>         -- a position of the list at `c` leads to `c'`
    exact ih (hf.step.2 c' (by simpa [hc, children] using List.mem_of_getElem? hl)) hw
  | case3 | case4 | case6 | case7 => cases hw   -- no such key or position, or not a mapping or list

/-- an assignment through a fresh structure does not touch any cell below `n` -/
theorem assign_below (n : Nat) (h1 h2 : Heap) (c : Nat) (path : List Step) (k : Name) (v : Int)
    (hf : Fresh n h1 c) (hn : n ≤ h1.length) (b : Nat) (hb : b < n) :
    assign h1 c path k v = some h2 → cell h2 b = cell h1 b := by
  fun_cases assign h1 c path k v with
  | case2 a hw kvs hc =>      -- the path leads to a mapping at `a`: cell `a` is replaced, one int cell appended
    rintro ⟨⟩
    have hge : n ≤ a := walk_fresh n h1 path c a hf hw (by simp [hc])
    simp only [cell, List.getElem?_set_ne (show a ≠ b by omega)]
    rw [List.getElem?_append_left (by omega)]
  | case1 | case3 => nofun    -- the path leads nowhere, or not to a mapping

theorem all_congr_mem {α} (p q : α → Bool) (l : List α) (h : ∀ a ∈ l, p a = q a) : l.all p = l.all q := by
  induction l <;> simp_all

/-- heaps that agree below `n`, a bound no cell below it points beyond, denote the same there -/
theorem congr_below (m n : Nat) (h1 h2 : Heap) (hcell : ∀ b, b < n → cell h2 b = cell h1 b)
    (hcl : ClosedBelow n h1) : ∀ (g d : Nat), d < n →
    read g h2 d = read g h1 d ∧ fits g h2 d = fits g h1 d ∧ freshFrom m g h2 d = freshFrom m g h1 d
  | 0, _, _ => ⟨rfl, rfl, rfl⟩
  | g + 1, d, hd => by
    have ih := fun a ha => congr_below m n h1 h2 hcell hcl g a (hcl d hd a ha)
    have hfit := all_congr_mem _ _ _ fun a ha => (ih a ha).2.1
    have hfr := all_congr_mem _ _ _ fun a ha => (ih a ha).2.2
    simp only [read, fits, freshFrom, hcell d hd, hfit]
    cases hc : cell h1 d <;> simp only [hc, true_and, and_true, children] at ih hfr ⊢
    case dict kvs =>
      exact ⟨congrArg _ (List.map_congr_left fun p hp => by simp [(ih p.2 (List.mem_map_of_mem hp)).1]),
        congrArg _ hfr⟩
    case list xs => exact ⟨congrArg _ (List.map_congr_left fun a ha => (ih a ha).1), congrArg _ hfr⟩

theorem freshFrom_mono (m m' : Nat) (hm : m ≤ m') (h : Heap) : ∀ (g d : Nat),
    freshFrom m' g h d = true → freshFrom m g h d = true
  | 0, _, _ => rfl
  | g + 1, d, hf => by
    simp only [freshFrom] at hf ⊢
    cases hc : cell h d
    case int => rfl
    all_goals                 -- dict, list
      simp only [hc, Bool.and_eq_true, decide_eq_true_eq, List.all_eq_true] at hf ⊢
      exact ⟨by omega, fun a ha => freshFrom_mono m m' hm h g a (hf.2 a ha)⟩

/-- what a copy of `a` (made in heap `h`, result `c` in `h1`) must satisfy; `n` is the size of the heap
before the outermost `copy.copy`.  `fit` (the fuel reaches all of the copy) is carried along because `fresh`
holds trivially where the fuel runs out and would say nothing about cells below that. -/
structure CopySpec (n f : Nat) (h : Heap) (a : Nat) (h1 : Heap) (c : Nat) : Prop where
  ext : ∃ e, h1 = h ++ e
  closed : Closed h1
  lt : c < h1.length
  fit : fits f h1 c = true
  fresh : freshFrom n f h1 c = true
  same : read f h1 c = read f h a

theorem closed_append_stable {h : Heap} (_hc : Closed h) (e : Heap) :
    (∀ b, b < h.length → cell (h ++ e) b = cell h b) := fun b hb => cell_append h e b hb

/-- what is appended to a closed heap does not change what its addresses denote -/
theorem append_stable {h : Heap} (hc : Closed h) (e : Heap) {d : Nat} (hd : d < h.length) (m g : Nat) :
    read g (h ++ e) d = read g h d ∧ fits g (h ++ e) d = fits g h d ∧
      freshFrom m g (h ++ e) d = freshFrom m g h d :=
  congr_below m _ _ _ (cell_append h e) hc g d hd

/-- what `mapAcc g h xs` yields when `g` meets `CopySpec` -/
def MapSpec (n f : Nat) (h : Heap) (xs : List Nat) (h' : Heap) (ys : List Nat) : Prop :=
  (∃ e, h' = h ++ e) ∧ Closed h' ∧
  (∀ y ∈ ys, y < h'.length ∧ fits f h' y = true ∧ freshFrom n f h' y = true) ∧
  ys.map (read f h') = xs.map (read f h)

theorem mapAcc_spec (n f : Nat) (g : Heap → Nat → Heap × Nat)
    (hg : ∀ h a, Closed h → n ≤ h.length → a < h.length → fits f h a = true →
      CopySpec n f h a (g h a).1 (g h a).2) (xs : List Nat) (h : Heap) (hc : Closed h) (hn : n ≤ h.length)
    (hx : ∀ x ∈ xs, x < h.length ∧ fits f h x = true) :
    MapSpec n f h xs (mapAcc g h xs).1 (mapAcc g h xs).2 := by
  fun_induction mapAcc g h xs with
  | case1 h => exact ⟨⟨[], (List.append_nil h).symm⟩, hc, by simp, rfl⟩
  | case2 h x r h1 y hy h2 ys hm ih =>   -- `g` copies `x` to `y` in `h1`, the rest goes to `ys` in `h2`
    obtain ⟨⟨hxl, hxf⟩, hxr⟩ := List.forall_mem_cons.1 hx
    have s1 := hy ▸ hg h x hc hn hxl hxf
    obtain ⟨e1, rfl⟩ := s1.ext
    -- the rest is copied in the grown heap, where the originals are what they were
    have old := fun x' hx' => append_stable hc e1 (hxr x' hx').1 n f
    obtain ⟨⟨e2, rfl⟩, hc2, hys, hrd⟩ := hm ▸ ih s1.closed (by simp; omega)
      fun x' hx' => ⟨by have := (hxr x' hx').1; simp; omega, (old x' hx').2.1 ▸ (hxr x' hx').2⟩
    obtain ⟨y1, y2, y3⟩ := append_stable s1.closed e2 s1.lt n f
    refine ⟨⟨e1 ++ e2, by simp⟩, hc2, List.forall_mem_cons.2
      ⟨⟨by have := s1.lt; simp at this ⊢; omega, y2 ▸ s1.fit, y3 ▸ s1.fresh⟩, hys⟩, ?_⟩
    rw [List.map_cons, List.map_cons, hrd, y1, s1.same]
    exact congrArg _ (List.map_congr_left fun x' hx' => (old x' hx').1)

theorem closed_snoc {h : Heap} (hc : Closed h) (o : Obj) (ho : ∀ a ∈ children o, a < h.length) :
    Closed (h ++ [o]) := by
  intro b hb a ha
  rw [List.length_append] at hb ⊢
  by_cases hbl : b < h.length
  · exact Nat.lt_add_right _ (hc b hbl a (cell_append h [o] b hbl ▸ ha))
  · obtain rfl : b = h.length := by simp at hb; omega
    exact Nat.lt_add_right _ (ho a (cell_append_new h o ▸ ha))

/-- the copy of a mapping or list: a new cell `o` whose children `ys` are the copies (made in `h'`) of the
children `xs` of the original meets `CopySpec`, given that it reads as the original once its children do -/
theorem copySpec_snoc {n f : Nat} {h h' : Heap} {a : Nat} {xs ys : List Nat} (o : Obj)
    (ms : MapSpec n f h xs h' ys) (hn : n ≤ h.length) (ho : children o = ys)
    (hsame : ys.map (read f (h' ++ [o])) = xs.map (read f h) →
      read (f + 1) (h' ++ [o]) h'.length = read (f + 1) h a) :
    CopySpec n (f + 1) h a (h' ++ [o]) h'.length := by
  subst ho
  obtain ⟨⟨e, rfl⟩, hc', hys, hrd⟩ := ms
  have old := fun y hy => append_stable hc' [o] (hys y hy).1 n f
  have hnew : cell (h ++ e ++ [o]) (h ++ e).length = o := cell_append_new _ _
  refine ⟨⟨e ++ [o], by simp⟩, closed_snoc hc' o fun y hy => (hys y hy).1, by simp, ?_, ?_,
    hsame (hrd ▸ List.map_congr_left fun y hy => (old y hy).1)⟩
  · simp only [fits, hnew, List.all_eq_true]
    exact fun y hy => (old y hy).2.1 ▸ (hys y hy).2.1
  · cases o
    case int => simp only [freshFrom, hnew]
    all_goals                 -- dict, list
      simp only [freshFrom, hnew, Bool.and_eq_true, decide_eq_true_eq, List.all_eq_true]
      exact ⟨by simp; omega, fun y hy => (old y hy).2.2 ▸ (hys y hy).2.2⟩

/-- **`__copy__` after its `fix:`**: the copy reads as the original, and every mapping or list reachable
from it is a new object -/
theorem copyObj_spec (n : Nat) : ∀ (f : Nat) (h : Heap) (a : Nat), Closed h → n ≤ h.length →
    a < h.length → fits f h a = true → CopySpec n f h a (copyObj true f h a).1 (copyObj true f h a).2
  | 0, _, _, _, _, _, hf => by simp [fits] at hf
  | f + 1, h, a, hc, hn, ha, hf => by
    have ms := mapAcc_spec n f (copyObj true f) (copyObj_spec n f) (children (cell h a)) h hc hn
      fun x hx => ⟨hc a ha x hx, List.all_eq_true.1 hf x hx⟩
    unfold copyObj
    cases hcell : cell h a with
    | int v => exact ⟨⟨[], by simp⟩, hc, ha, hf, by simp [freshFrom, hcell], rfl⟩
    | dict kvs =>
      simp only [hcell, children] at ms ⊢
      exact copySpec_snoc _ ms hn
        (List.map_snd_zip (by simpa using Nat.le_of_eq (congrArg List.length ms.2.2.2))) fun hr => by
        simp only [read, cell_append_new, hcell, Tree.node.injEq]
        -- the keys zipped with what the copies read as, which by `hr` is what the originals read as
        exact List.zip_map_right.symm.trans (by rw [hr, List.map_map, List.zip_map']; rfl)
    | list xs =>
      simp only [hcell, children, if_true] at ms ⊢
      exact copySpec_snoc _ ms hn rfl fun hr => by
        simp only [read, cell_append_new, hcell, Tree.list.injEq]
        exact hr

/-- **Copies are structurally independent (repaired `__copy__`, with object identities)**: for every
closed heap and every dotdict `d` in it, `c = copy.copy( d )` reads exactly as `d`, and whatever is
assigned through `c` afterwards — at any path, through levels and list elements — `d` reads as before. -/
theorem copy_independent (f : Nat) (h : Heap) (d : Nat) (hc : Closed h) (hd : d < h.length)
    (hf : fits f h d = true) :
    read f (copyObj true f h d).1 (copyObj true f h d).2 = read f h d ∧
    ∀ (path : List Step) (k : Name) (v : Int) (h2 : Heap),
      assign (copyObj true f h d).1 (copyObj true f h d).2 path k v = some h2 →
      ∀ g, read g h2 d = read g h d := by
  have spec := copyObj_spec h.length f h d hc (Nat.le_refl _) hd hf
  refine ⟨spec.same, ?_⟩
  intro path k v h2 ha g
  obtain ⟨e, he⟩ := spec.ext
  refine (congr_below 0 h.length h h2 (fun b hb => ?_) hc g d hd).1
  rw [assign_below h.length _ h2 _ path k v ⟨f, spec.fresh, spec.fit⟩ (by rw [he]; simp) b hb ha, he,
    cell_append h e b hb]

/-- element-wise relation between two lists of the same length -/
inductive Rel2 (R : Nat → Nat → Prop) : List Nat → List Nat → Prop
  | nil : Rel2 R [] []
  | cons {x y : Nat} {xs ys : List Nat} : R x y → Rel2 R xs ys → Rel2 R (x :: xs) (y :: ys)

theorem Rel2.imp {R S : Nat → Nat → Prop} (hrs : ∀ x y, R x y → S x y) {xs ys : List Nat}
    (h : Rel2 R xs ys) : Rel2 S xs ys := by
  induction h with
  | nil => exact Rel2.nil
  | cons hr _ ih => exact Rel2.cons (hrs _ _ hr) ih

/-- decidable form of `Closed` -/
def closedB (h : Heap) : Bool :=
  (List.range h.length).all fun b => (children (cell h b)).all fun a => decide (a < h.length)

theorem closed_of_closedB (h : Heap) (hb : closedB h = true) : Closed h := by
  intro b hlt a ha
  simp only [closedB, List.all_eq_true, List.mem_range, decide_eq_true_eq] at hb
  exact hb b hlt a ha

end Cpppo.Dotdict.Heap
