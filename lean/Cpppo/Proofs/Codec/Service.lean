import Cpppo.Model.Codec.Service
import Cpppo.Proofs.Codec.Prim

/-! Round trips of the CIP service layer (C01). -/
namespace Cpppo.Codec
open Cpppo

/-! `simp` does not match `x` against `x ++ []`, nor `.plain` against `if false then .padded else .plain`: the
`rest = []` and fixed-form instances of the field lemmas are stated for it. -/

theorem takeLE_exact (k n : Nat) (h : n < 256 ^ k) : takeLE k (Bytes.le k n) = some (n, []) := by
  simpa using takeLE_append k n [] h

theorem takeWords_exact (ws : List Nat) (h : ∀ w ∈ ws, w < 65536) :
    takeWords ws.length ((ws.map (Bytes.le 2)).flatten) = some (ws, []) := by
  simpa using takeWords_append ws [] h

theorem decodeStatus_exact (st : Status) (h : st.WF) : decodeStatus (encodeStatus st) = some (st, []) := by
  simpa using decodeStatus_encode st [] h

theorem decodePlain (p : List Seg) (rest : Bytes) (h : EpathWF p) :
    decodeEpath false (encodeEpath .plain p ++ rest) = some (p, rest) := decodeEpath_encode false p rest h

theorem decodePlain_exact (p : List Seg) (h : EpathWF p) :
    decodeEpath false (encodeEpath .plain p) = some (p, []) := by
  simpa using decodePlain p [] h

theorem decodePadded_exact (p : List Seg) (h : EpathWF p) :
    decodeEpath true (encodeEpath .padded p) = some (p, []) := by
  simpa using decodeEpath_encode true p [] h

/-! A decoder reads one field after the other, so a round trip is one `simp` walk along the encoder's fields with the
field lemmas above and those of `Proofs.Codec.Prim`; their range conditions are read off the `WF` hypothesis. -/

def Typed.WF (t : Typed) : Prop :=
  t.ty < 65536 ∧ t.data ≠ [] ∧
    (match t.handle with | some h => t.ty = structType ∧ h < 65536 | none => t.ty ≠ structType)

theorem structType_lt : structType < 65536 := by decide

theorem decodeTyped_encode (t : Typed) (h : t.WF) : decodeTyped (encodeTyped t) = some t := by
  obtain ⟨ty, _ | hd, data⟩ := t <;> simp only [Typed.WF] at h <;>
    simp [decodeTyped, encodeTyped, takeLE_append, structType_lt, h]

/-! ### Network Connection Parameters

The parameter word is `f * B + size`: the size field below `B` = 2^9 (small layout) or 2^25 (large layout, bits 16–24
unused), the flag fields in `f`. -/

def Ncp.WF (large : Bool) (p : Ncp) : Prop :=
  p.size < (if large then 2 ^ 16 else 2 ^ 9) ∧ p.var < 2 ∧ p.prio < 4 ∧ p.kind < 4 ∧ p.redundant < 2

theorem div_above (f s B D : Nat) (hs : s < B) (hD : D % B = 0) : (f * B + s) / D = f / (D / B) := by
  obtain ⟨d, rfl⟩ := Nat.dvd_of_mod_eq_zero hD
  rw [Nat.mul_div_cancel_left d (by omega), ← Nat.div_div_eq_div_mul, Nat.mul_comm f B, Nat.mul_add_div (by omega),
    Nat.div_eq_of_lt hs, Nat.add_zero]

theorem mod_below (f s B M : Nat) (hs : s < M) (hB : B % M = 0) : (f * B + s) % M = s := by
  obtain ⟨b, rfl⟩ := Nat.dvd_of_mod_eq_zero hB
  rw [Nat.mul_left_comm, Nat.mul_add_mod, Nat.mod_eq_of_lt hs]

/-- **bit-field round trip of the Forward Open connection parameters** (small and large layouts) -/
theorem decodeNcp_encode (large : Bool) (p : Ncp) (h : p.WF large) : decodeNcp large (encodeNcp large p) = p := by
  obtain ⟨size, var, prio, kind, red⟩ := p
  obtain ⟨hs, hv, hp, hk, hr⟩ := h
  -- the flag fields relative to their lowest bit: a 7-bit format (one bit reserved), checked exhaustively
  have flags : ∀ (v : Fin 2) (p : Fin 4) (k : Fin 4) (r : Fin 2),
      let f := v.val + p.val * 2 + k.val * 16 + r.val * 64
      f / 1 % 2 = v ∧ f / 2 % 4 = p ∧ f / 16 % 4 = k ∧ f / 64 % 2 = r := by decide +kernel
  obtain ⟨h1, h2, h3, h4⟩ := flags ⟨var, hv⟩ ⟨prio, hp⟩ ⟨kind, hk⟩ ⟨red, hr⟩
  cases large
  · have e : (var * 512 + prio * 1024 + kind * 8192 + red * 32768) * 1 + size
        = (var + prio * 2 + kind * 16 + red * 64) * 512 + size := by
      simp only [Nat.add_mul, Nat.mul_assoc, Nat.reduceMul, Nat.mul_one]
    simp only [Bool.false_eq_true, ↓reduceIte, Nat.reducePow] at hs
    simp only [decodeNcp, encodeNcp, Bool.false_eq_true, ↓reduceIte, Nat.add_zero, Nat.reducePow, e,
      div_above, mod_below, hs, Nat.reduceMod, Nat.reduceDiv, h1, h2, h3, h4]
  · have e : (var * 512 + prio * 1024 + kind * 8192 + red * 32768) * 65536 + size
        = (var + prio * 2 + kind * 16 + red * 64) * 33554432 + size := by
      simp only [Nat.add_mul, Nat.mul_assoc, Nat.reduceMul]
    simp only [↓reduceIte, Nat.reducePow] at hs
    have hs' : size < 33554432 := by omega
    simp only [decodeNcp, encodeNcp, ↓reduceIte, Nat.reduceAdd, Nat.reducePow, e,
      div_above, mod_below, hs, hs', Nat.reduceMod, Nat.reduceDiv, h1, h2, h3, h4]

/-! ### Multiple Service Packet member table -/

theorem msOffsets_go_length (o : Nat) (ms : List Bytes) : (msOffsets.go o ms).length = ms.length := by
  fun_induction msOffsets.go o ms <;> simp [*]

theorem sliceMembers_go (pre : Bytes) (ms : List Bytes) :
    sliceMembers (pre ++ ms.flatten) (msOffsets.go pre.length ms) = ms := by
  induction ms generalizing pre with
  | nil => rfl
  | cons m rest ih =>
    have := ih (pre ++ m)
    cases rest with
    | nil => simp [msOffsets.go, sliceMembers]
    | cons m2 rest2 =>
      simp only [msOffsets.go, List.length_append, List.flatten_cons, List.append_assoc] at this ⊢
      simp [sliceMembers, this]

theorem msOffsets_go_bound (o : Nat) (ms : List Bytes) : ∀ x ∈ msOffsets.go o ms, x ≤ o + ms.flatten.length := by
  fun_induction msOffsets.go o ms with
  | case1 => simp
  | case2 o m rest ih =>
    simp only [List.mem_cons, List.flatten_cons, List.length_append, forall_eq_or_imp]
    exact ⟨by omega, fun x hx => by have := ih x hx; omega⟩

/-- the bundle fits the 16-bit count and offsets -/
def MembersWF (ms : List Bytes) : Prop := 2 + 2 * ms.length + ms.flatten.length < 65536

theorem offsetWords_length (os : List Nat) : ((os.map (Bytes.le 2)).flatten).length = 2 * os.length := by
  induction os <;> simp +arith [Bytes.le_length, *]

/-- **the offset table of a Multiple Service Packet locates every member exactly** -/
theorem decodeMembers_encode (ms : List Bytes) (h : MembersWF ms) :
    decodeMembers (encodeMembers ms) = some ms := by
  unfold MembersWF at h
  have hlen : (msOffsets ms).length = ms.length := msOffsets_go_length _ ms
  have hw := takeWords_append (msOffsets ms) ms.flatten fun w hw => by
    have := msOffsets_go_bound _ ms w hw
    omega
  have hs := sliceMembers_go (Bytes.le 2 ms.length ++ ((msOffsets ms).map (Bytes.le 2)).flatten) ms
  rw [List.length_append, Bytes.le_length, offsetWords_length, hlen] at hs
  rw [hlen] at hw
  have hn : ms.length < 65536 := by omega
  simp [decodeMembers, encodeMembers, takeLE_append, hn, hw]
  simpa [msOffsets] using hs

theorem encodeMembers_ne_nil (ms : List Bytes) : encodeMembers ms ≠ [] := by
  simp [encodeMembers, Bytes.le]

/-! ### services -/

def AppWF (app : Bytes) : Prop := app.length % 2 = 0 ∧ app.length / 2 < 256

/-- the one test of `decodeApp`, length = 2 * size byte, holds of an even length -/
theorem decodeApp_encode (app : Bytes) (h : AppWF app) : decodeApp (encodeApp app) = some app :=
  if_pos (Nat.mul_div_cancel' (Nat.dvd_of_mod_eq_zero h.1)).symm

def FwdOpen.WF (large : Bool) (fo : FwdOpen) : Prop :=
  fo.priority < 256 ∧ fo.ticks < 256 ∧ fo.otId < 4294967296 ∧ fo.toId < 4294967296 ∧ fo.connSerial < 65536
  ∧ fo.vendor < 65536 ∧ fo.serial < 4294967296 ∧ fo.multiplier < 256 ∧ fo.otRpi < 4294967296
  ∧ fo.otNcp < 256 ^ (if large then 4 else 2) ∧ fo.toRpi < 4294967296 ∧ fo.toNcp < 256 ^ (if large then 4 else 2)
  ∧ fo.trigger < 256 ∧ EpathWF fo.connPath

theorem decodeFwdOpenBody_encode (large : Bool) (fo : FwdOpen) (h : fo.WF large) :
    decodeFwdOpenBody large (encodeFwdOpenBody large fo) = some fo := by
  cases fo
  simp only [FwdOpen.WF] at h
  simp [encodeFwdOpenBody, decodeFwdOpenBody, takeLE_append, decodePlain_exact, h]

def Svc.WF : Svc → Prop
  | .readTagReq p n => EpathWF p ∧ n < 65536
  | .readFragReq p n off => EpathWF p ∧ n < 65536 ∧ off < 4294967296
  | .writeTagReq p t n => EpathWF p ∧ t.WF ∧ n < 65536
  | .writeFragReq p t n off => EpathWF p ∧ t.WF ∧ n < 65536 ∧ off < 4294967296
  | .readReply _ st t =>
    st.WF ∧ (match t with | some t => (st.code = 0 ∨ st.code = 6) ∧ t.WF | none => st.code ≠ 0 ∧ st.code ≠ 6)
  | .writeReply _ st => st.WF
  | .gaAllReq p | .gaSngReq p => EpathWF p
  | .gaLstReq p attrs => EpathWF p ∧ attrs ≠ [] ∧ attrs.length < 65536 ∧ ∀ a ∈ attrs, a < 65536
  | .saSngReq p data => EpathWF p ∧ data ≠ []
  | .dataReply svc st _ =>
    st.WF ∧ svc < 256 ∧ svc ∉ [0x4C, 0x52, 0x4D, 0x53, 0xCC, 0xD2, 0xCD, 0xD3, 0x01, 0x0E, 0x03, 0x10, 0x90, 0x0A, 0x8A,
                                 0x54, 0x5B, 0xD4, 0xDB, 0x4E, 0xCE]
  | .saSngReply st => st.WF
  | .multipleReq p ms => EpathWF p ∧ MembersWF ms
  | .multipleReply st ms => st.WF ∧ (match ms with | some ms => MembersWF ms | none => True)
  | .fwdOpenReq large p fo => EpathWF p ∧ fo.WF large
  | .fwdOpenOk _ otId toId cs v s otApi toApi app =>
    otId < 4294967296 ∧ toId < 4294967296 ∧ cs < 65536 ∧ v < 65536 ∧ s < 4294967296 ∧ otApi < 4294967296
    ∧ toApi < 4294967296 ∧ AppWF app
  | .fwdOpenFail _ st cs v s rem =>
    st.WF ∧ st.code ≠ 0 ∧ cs < 65536 ∧ v < 65536 ∧ s < 4294967296 ∧ (match rem with | some r => r < 256 | none => True)
  | .fwdCloseReq p fc =>
    EpathWF p ∧ fc.priority < 256 ∧ fc.ticks < 256 ∧ fc.connSerial < 65536 ∧ fc.vendor < 65536
    ∧ fc.serial < 4294967296 ∧ EpathWF fc.connPath
  | .fwdCloseReply st cs v s app => st.WF ∧ cs < 65536 ∧ v < 65536 ∧ s < 4294967296 ∧ AppWF app

/-- **Service-layer round trip: every request and reply of the Logix-dialect, Object, Multiple Service and
Connection Manager services.** -/
theorem decodeSvc_encode (s : Svc) (h : s.WF) : decodeSvc (encodeSvc s) = some s := by
  cases s with
  | readTagReq p n | readFragReq p n off | gaAllReq p | gaSngReq p | saSngReq p data | multipleReq p ms =>
    simp only [Svc.WF] at h
    simp [encodeSvc, decodeSvc, decodePlain, decodePlain_exact, takeLE_append, takeLE_exact, decodeMembers_encode, h]
  | gaLstReq p attrs =>
    simp only [Svc.WF] at h
    simp [encodeSvc, decodeSvc, decodePlain, takeLE_append, takeWords_exact attrs h.2.2.2, h]
  | writeTagReq p t n | writeFragReq p t n off =>
    obtain ⟨ty, _ | hd, data⟩ := t <;> simp only [Svc.WF, Typed.WF] at h <;>
      simp [encodeSvc, decodeSvc, decodePlain, takeLE_append, structType_lt, h]
  | readReply frag st t =>
    cases t with
    | none =>
      simp only [Svc.WF] at h
      cases frag <;> simp [encodeSvc, decodeSvc, decodeStatus_exact, h]
    | some t =>
      simp only [Svc.WF] at h
      cases frag <;> simp [encodeSvc, decodeSvc, decodeStatus_encode, decodeTyped_encode t h.2.2, h.2.2.2.1, h]
  | writeReply frag st =>
    cases frag <;> simp [encodeSvc, decodeSvc, decodeStatus_exact st h]
  | dataReply svc st data =>
    -- `svc` is none of the codes with a layout of their own: every test of the dispatch fails
    simp only [Svc.WF, List.mem_cons, List.not_mem_nil, or_false, not_or] at h
    simp [encodeSvc, decodeSvc, decodeStatus_encode, h]
  | saSngReply st => simp [encodeSvc, decodeSvc, decodeStatus_exact st h]
  | multipleReply st ms =>
    cases ms <;> simp only [Svc.WF] at h <;>
      simp [encodeSvc, decodeSvc, decodeStatus_encode, decodeStatus_exact, decodeMembers_encode,
        encodeMembers_ne_nil, h]
  | fwdOpenReq large p fo =>
    simp only [Svc.WF] at h
    cases large <;> simp [encodeSvc, decodeSvc, decodePlain, decodeFwdOpenBody_encode, h]
  | fwdOpenOk large otId toId cs v s otApi toApi app =>
    simp only [Svc.WF] at h
    cases large <;> simp [encodeSvc, decodeSvc, decodeStatus, takeWords, takeLE_append, decodeApp_encode, h]
  | fwdOpenFail large st cs v s rem =>
    cases rem <;> simp only [Svc.WF] at h <;> cases large <;>
      simp [encodeSvc, decodeSvc, decodeStatus_encode, takeLE_append, takeLE_exact, h]
  | fwdCloseReq p fc =>
    cases fc
    simp only [Svc.WF] at h
    simp [encodeSvc, decodeSvc, decodePlain, takeLE_append, decodePadded_exact, h]
  | fwdCloseReply st cs v s app =>
    simp only [Svc.WF] at h
    simp [encodeSvc, decodeSvc, decodeStatus_encode, takeLE_append, decodeApp_encode, h]

end Cpppo.Codec
