import Cpppo.Model.Codec.Prim
import Cpppo.Proofs.Bytes

/-! Round-trip lemmas for the wire primitives (C01). -/
namespace Cpppo.Codec
open Cpppo

theorem takeN_append (n : Nat) (s rest : Bytes) (h : s.length = n) : takeN n (s ++ rest) = some (s, rest) := by
  rw [takeN, if_neg (by simp [h]), List.take_left' h, List.drop_left' h]

theorem takeLE_append (k n : Nat) (rest : Bytes) (h : n < 256 ^ k) :
    takeLE k (Bytes.le k n ++ rest) = some (n, rest) := by
  have hl := Bytes.le_length k n
  rw [takeLE, if_neg (by simp [hl]), List.take_left' hl, List.drop_left' hl, Bytes.leNat_le k n h]

theorem ne_nil_of_decode {α : Type} {f : Bytes → Option α} {bs : Bytes} {a : α} (h : f bs = some a)
    (h0 : f [] = none) : bs ≠ [] := by
  rintro rfl
  rw [h0] at h
  cases h

/-! ### strings -/

theorem decodeSString_encode (s rest : Bytes) : decodeSString (encodeSString s ++ rest) = some (s, rest) := by
  simp [encodeSString, decodeSString, takeN_append]

theorem decodeString_encode (s rest : Bytes) (h : s.length < 65536) :
    decodeString (encodeString s ++ rest) = some (s, rest) := by
  by_cases hp : s.length % 2 = 1 <;> simp [decodeString, encodeString, takeLE_append, takeN_append, h, hp]

/-! ### status -/

theorem takeWords_append (ws : List Nat) (rest : Bytes) (h : ∀ w ∈ ws, w < 65536) :
    takeWords ws.length ((ws.map (Bytes.le 2)).flatten ++ rest) = some (ws, rest) := by
  induction ws with
  | nil => rfl
  | cons w ws ih =>
    rw [List.forall_mem_cons] at h
    simp [takeWords, takeLE_append, h.1, ih h.2]

/-- canonical status: no extended words with status 0 (they are not written) -/
def Status.WF (s : Status) : Prop :=
  s.code < 256 ∧ s.ext.length < 256 ∧ (∀ w ∈ s.ext, w < 65536) ∧ (s.code = 0 → s.ext = [])

theorem decodeStatus_encode (s : Status) (rest : Bytes) (h : s.WF) :
    decodeStatus (encodeStatus s ++ rest) = some (s, rest) := by
  obtain ⟨code, ext⟩ := s
  obtain ⟨_, _, hw, h0⟩ := h
  by_cases hc : code = 0
  · obtain rfl := h0 hc
    simp [encodeStatus, decodeStatus, takeWords, hc]
  · simp [encodeStatus, decodeStatus, hc, takeWords_append _ _ hw]

/-! ### EPATH segments -/

def Link.WF : Link → Prop
  | .num n => n < 256
  | .addr s => 1 ≤ s.length ∧ s.length < 256

def Seg.WF : Seg → Prop
  | .cls n | .ins n | .conn n | .attr n => n < 65536
  | .elem n => n < 4294967296
  | .sym s => 1 ≤ s.length ∧ s.length < 256
  | .port p l => 1 ≤ p ∧ p < 65536 ∧ l.WF

theorem dropPad_append (p : Prop) [Decidable p] (rest : Bytes) :
    dropPad (decide p) ((if p then [0] else []) ++ rest) = some rest := by
  by_cases h : p <;> simp [dropPad, h]

theorem decodeSeg_encode (s : Seg) (rest : Bytes) (h : s.WF) :
    decodeSeg (encodeSeg s ++ rest) = some (s, rest) := by
  cases s with
  | cls n | ins n | conn n | attr n =>
    simp only [Seg.WF] at h
    have h16 : n ≤ 65535 := Nat.le_of_lt_succ h
    by_cases h8 : n ≤ 255 <;> simp [encodeSeg, encodeLogical, decodeSeg, takeLE_append, h8, h16, h]
  | elem n =>
    simp only [Seg.WF] at h
    by_cases h8 : n ≤ 255
    · simp [encodeSeg, encodeLogical, decodeSeg, h8]
    · by_cases h16 : n ≤ 65535
      · simp [encodeSeg, encodeLogical, decodeSeg, takeLE_append, h8, h16, Nat.lt_succ_of_le h16]
      · simp [encodeSeg, encodeLogical, decodeSeg, takeLE_append, h8, h16, h]
  | sym s => simp [encodeSeg, decodeSeg, takeN_append, dropPad_append]
  | port p l =>
    obtain ⟨hp1, hp2, _⟩ := h
    by_cases hlt : p < 0x0f
    · -- short forms: the type byte is the port itself (+ 0x10 with an address), below every other type byte
      have hp : ∀ c, 15 ≤ c → (p = c) = False := fun c hc => eq_false (Nat.ne_of_lt (Nat.lt_of_lt_of_le hlt hc))
      have h14 : p ≤ 14 := Nat.le_of_lt_succ hlt
      cases l <;> simp [encodeSeg, decodeSeg, takeN_append, dropPad_append, hlt, hp, hp1, h14]
    · cases l <;> simp [encodeSeg, decodeSeg, takeLE_append, takeN_append, dropPad_append, hlt, hp2]

theorem padded_even (hd s : Bytes) (h : hd.length % 2 = 0) :
    (hd ++ s ++ (if s.length % 2 = 1 then [0] else [])).length % 2 = 0 := by
  rcases Nat.mod_two_eq_zero_or_one s.length with hs | hs <;> simp [Nat.add_mod, h, hs]

theorem encodeLogical_even (ty : Nat) (allow32 : Bool) (n : Nat) : (encodeLogical ty allow32 n).length % 2 = 0 := by
  fun_cases encodeLogical ty allow32 n <;> simp [Bytes.le_length]

theorem encodeSeg_even (s : Seg) : (encodeSeg s).length % 2 = 0 := by
  cases s with
  | cls n | ins n | conn n | attr n | elem n => exact encodeLogical_even _ _ n
  | sym s => exact padded_even [0x91, s.length] s (by simp)
  | port p l =>
    cases l with
    | num n => simp only [encodeSeg]; split <;> simp [Bytes.le_length]
    | addr s => exact padded_even _ s (by split <;> simp [Bytes.le_length])

theorem decodeSegs_encode (segs : List Seg) (h : ∀ s ∈ segs, s.WF) (fuel : Nat)
    (hf : (encodeSegs segs).length ≤ fuel) : decodeSegs fuel (encodeSegs segs) = some segs := by
  induction segs generalizing fuel with
  | nil => cases fuel <;> simp [encodeSegs, decodeSegs]
  | cons s rest ih =>
    obtain ⟨hs, hrest⟩ := List.forall_mem_cons.mp h
    have hne : encodeSeg s ≠ [] := by simpa using ne_nil_of_decode (decodeSeg_encode s [] hs) rfl
    -- a segment uses up at least one unit of fuel
    have hl : 0 < (encodeSeg s).length := List.length_pos_iff.mpr hne
    simp only [encodeSegs, List.map_cons, List.flatten_cons, List.length_append] at hf ⊢
    cases fuel with
    | zero => omega
    | succ f =>
      rw [decodeSegs, if_neg (by simp [hne]), decodeSeg_encode s _ hs]
      exact congrArg (Option.map (s :: ·)) (ih hrest f (by simp only [encodeSegs]; omega))

theorem encodeSegs_even (segs : List Seg) : (encodeSegs segs).length % 2 = 0 := by
  induction segs with
  | nil => rfl
  | cons s rest ih =>
    simp only [encodeSegs, List.map_cons, List.flatten_cons, List.length_append] at ih ⊢
    rw [Nat.add_mod, encodeSeg_even, ih]

/-- a well-formed path: well-formed segments, at most 255 words -/
def EpathWF (segs : List Seg) : Prop := (∀ s ∈ segs, s.WF) ∧ (encodeSegs segs).length / 2 < 256

/-- **EPATH round trip** (plain and padded forms; size byte = words; every segment kind and width) -/
theorem decodeEpath_encode (padded : Bool) (segs : List Seg) (rest : Bytes) (h : EpathWF segs) :
    decodeEpath padded (encodeEpath (if padded then .padded else .plain) segs ++ rest) = some (segs, rest) := by
  obtain ⟨hs, _⟩ := h
  have h2 := Nat.mul_div_cancel' (Nat.dvd_of_mod_eq_zero (encodeSegs_even segs))
  cases padded <;>
    simp only [Bool.false_eq_true, ↓reduceIte, encodeEpath, List.cons_append, decodeEpath, dropPad, h2, takeN_append,
      decodeSegs_encode segs hs _ (Nat.le_refl _), Option.map_some]

/-- single-segment EPATH (no size): one segment, rest untouched -/
theorem decodeSingle_encode (s : Seg) (rest : Bytes) (h : s.WF) :
    decodeSeg (encodeEpath .single [s] ++ rest) = some (s, rest) := by
  simpa [encodeEpath, encodeSegs] using decodeSeg_encode s rest h

end Cpppo.Codec
