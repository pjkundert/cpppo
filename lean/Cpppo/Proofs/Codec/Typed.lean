import Cpppo.Model.Types
import Cpppo.Proofs.Bytes

/-! Typed data at the element level: `decodeVals` inverts the element encoders (C01) of the eight integer types, BOOL,
REAL and LREAL (the two string types are not covered here). -/
namespace Cpppo

theorem chunks_flatten (k : Nat) (hk : 0 < k) (cs : List Bytes) (h : ∀ c ∈ cs, c.length = k) (fuel : Nat)
    (hf : cs.flatten.length ≤ fuel) : chunks k fuel cs.flatten = some cs := by
  induction cs generalizing fuel with
  | nil => cases fuel <;> simp [chunks]
  | cons c rest ih =>
    obtain ⟨hc, hrest⟩ := List.forall_mem_cons.mp h
    have hne : c ≠ [] := List.ne_nil_of_length_pos (hc ▸ hk)
    simp only [List.flatten_cons, List.length_append] at hf ⊢
    cases fuel with
    | zero => omega
    | succ f =>
      rw [chunks, if_neg (by simp [hne]), if_neg (by simp only [List.length_append]; omega), List.take_left' hc,
        List.drop_left' hc, ih hrest f (by omega)]
      rfl

theorem mapM_packInt (signed : Bool) (k : Nat) (hk : 1 ≤ k) (is : List Int) (bss : List Bytes)
    (h : is.mapM (Bytes.packInt signed k) = some bss) :
    (∀ c ∈ bss, c.length = k) ∧ bss.map (Bytes.unpackInt signed k) = is := by
  induction is generalizing bss with
  | nil => cases h; simp
  | cons i rest ih =>
    simp only [List.mapM_cons, Option.bind_eq_bind, Option.bind_eq_some_iff, Option.pure_def, Option.some.injEq] at h
    obtain ⟨b, hb, bs, hbs, rfl⟩ := h
    simpa [Bytes.unpack_pack _ _ hk i b hb, Bytes.packInt_length _ _ i b hb, (ih bs hbs).2] using (ih bs hbs).1

theorem decodeVals_of_isInt (t : CipType) (hi : t.isInt = true) (bs : Bytes) :
    decodeVals t bs
      = (chunks t.size bs.length bs).map (·.map fun c => .int (Bytes.unpackInt t.signed t.size c)) := by
  cases t <;> simp [CipType.isInt] at hi <;> rfl

theorem decodeVals_int (t : CipType) (hi : t.isInt = true) (is : List Int) (bss : List Bytes)
    (h : is.mapM (Bytes.packInt t.signed t.size) = some bss) :
    decodeVals t bss.flatten = some (is.map .int) := by
  have hk : 1 ≤ t.size := by cases t <;> simp [CipType.isInt] at hi <;> decide
  obtain ⟨hlen, hun⟩ := mapM_packInt _ _ hk is bss h
  rw [decodeVals_of_isInt t hi, chunks_flatten t.size hk bss hlen _ (Nat.le_refl _), ← hun]
  simp

/-- BOOL: 0x00 / 0xFF -/
theorem decodeVals_bool (bs : List Bool) :
    decodeVals .bool (bs.map fun b => if b then 255 else 0) = some (bs.map .bool) := by
  simp only [decodeVals, List.map_map, Option.some.injEq]
  apply List.map_congr_left
  intro b _
  cases b <;> simp

theorem chunks_words (k : Nat) (hk : 0 < k) (ws : List Nat) (g : Nat → Val) (h : ∀ w ∈ ws, w < 256 ^ k) :
    (chunks k ((ws.map (Bytes.le k)).flatten).length ((ws.map (Bytes.le k)).flatten)).map
      (·.map fun c => g (Bytes.leNat c)) = some (ws.map g) := by
  rw [chunks_flatten k hk _ (by simp [Bytes.le_length]) _ (Nat.le_refl _), Option.map_some, List.map_map]
  exact congrArg some (List.map_congr_left fun w hw => by simp [Bytes.leNat_le k w (h w hw)])

/-- REAL / LREAL bit patterns (a binary32 that has passed through a parser is quiet) -/
theorem decodeVals_real (ws : List Nat) (h : ∀ w ∈ ws, w < 2 ^ 32 ∧ Float'.quiet32 w = w) :
    decodeVals .real ((ws.map (Bytes.le 4)).flatten) = some (ws.map .f32) := by
  rw [decodeVals, chunks_words 4 (by decide) ws (fun n => .f32 (Float'.quiet32 n)) fun w hw => (h w hw).1]
  exact congrArg some (List.map_congr_left fun w hw => by rw [(h w hw).2])

theorem decodeVals_lreal (ws : List Nat) (h : ∀ w ∈ ws, w < 2 ^ 64) :
    decodeVals .lreal ((ws.map (Bytes.le 8)).flatten) = some (ws.map .f64) :=
  chunks_words 8 (by decide) ws Val.f64 h

end Cpppo
