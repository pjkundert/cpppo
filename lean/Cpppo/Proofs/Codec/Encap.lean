import Cpppo.Model.Codec.Encap
import Cpppo.Proofs.Codec.Service

/-! Round trips of the encapsulation layer: frame, Unconnected Send, CPF items, commands (C01). -/
namespace Cpppo.Codec
open Cpppo

/-! ### big-endian fields -/

theorem be_length (k n : Nat) : (Bytes.be k n).length = k := by simp [Bytes.be, Bytes.le_length]

theorem takeBE_append (k n : Nat) (rest : Bytes) (h : n < 256 ^ k) :
    takeBE k (Bytes.be k n ++ rest) = some (n, rest) := by
  have hl := be_length k n
  rw [takeBE, if_neg (by simp [hl]), List.take_left' hl, List.drop_left' hl, Bytes.beNat, Bytes.be,
    List.reverse_reverse, Bytes.leNat_le k n h]

theorem le_eq_nil_iff (k n : Nat) : Bytes.le k n = [] ↔ k = 0 := by
  rw [← List.length_eq_zero_iff, Bytes.le_length]

/-! ### frame -/

def Header.WF (h : Header) : Prop :=
  h.command < 65536 ∧ h.session < 4294967296 ∧ h.status < 4294967296 ∧ h.context.length = 8
  ∧ h.options < 4294967296

/-- **the encapsulation frame: 24 bytes of header plus the declared length, nothing of what follows** -/
theorem decodeFrame_encode (f : Frame) (rest : Bytes) (h : f.hdr.WF) (hl : f.payload.length < 65536) :
    decodeFrame (encodeFrame f ++ rest) = some (f, rest) := by
  obtain ⟨⟨⟩, _⟩ := f
  simp only [Header.WF] at h
  simp [encodeFrame, decodeFrame, takeLE_append, takeN_append, h, hl]

theorem encodeFrame_length (f : Frame) (h : f.hdr.context.length = 8) :
    (encodeFrame f).length = 24 + f.payload.length := by
  simp only [encodeFrame, List.length_append, Bytes.le_length, h]

/-! ### Unconnected Send -/

def USend.WF : USend → Prop
  | .send path prio ticks req route =>
    EpathWF path ∧ prio < 256 ∧ ticks < 256 ∧ req.length < 65536 ∧ EpathWF route
  | .error st => st.code < 16 ∧ st.code ≠ 0 ∧ st.ext = []
  | .other req => ∃ b rest, req = b :: rest ∧ b ≠ 0x52 ∧
      -- a payload starting with the wrapper's own reply code 0xD2 is passed through unless it could be the wrapper's
      -- error reply: at most 6 bytes, status < 0x10, no extended status (the ambiguity documented in the code)
      (b = 0xD2 → ∀ pad sts ext r, rest = pad :: sts :: ext :: r → ¬ (r.length + 4 ≤ 6 ∧ sts < 0x10 ∧ ext = 0))

theorem decodeUSend_encode (u : USend) (h : u.WF) : decodeUSend (encodeUSend u) = some u := by
  cases u with
  | send path prio ticks req route =>
    simp only [USend.WF] at h
    simp [encodeUSend, decodeUSend, decodePlain, takeLE_append, takeN_append, dropPad_append, decodePadded_exact, h]
  | error st =>
    obtain ⟨code, ext⟩ := st
    simp only [USend.WF] at h
    obtain ⟨h1, h2, rfl⟩ := h
    simp [encodeUSend, encodeStatus, decodeUSend, h1, h2]
  | other req =>
    obtain ⟨b, rest, rfl, h1, h2⟩ := h
    simp only [encodeUSend]
    unfold decodeUSend
    split
    · -- `0x52 :: _`: the wrapper's request code, excluded
      rename_i heq
      exact absurd (List.cons.inj heq).1 h1
    · -- `0xD2 :: pad :: sts :: ext :: r`: not an error reply, by the last clause of `WF`
      rename_i pad sts ext r heq
      obtain ⟨rfl, rfl⟩ := List.cons.inj heq
      simpa using h2 rfl pad sts ext r rfl
    · -- any other non-empty payload is passed through
      simp

/-! ### NUL-terminated / NUL-filled strings -/

/-- the predicate is written the way `simp` normalises the decoders' `(· ≠ 0)` -/
theorem takeWhile_nz (s tail : Bytes) (hs : ∀ b ∈ s, b ≠ 0) :
    (s ++ tail).takeWhile (fun x => !decide (x = 0)) = s ++ tail.takeWhile (fun x => !decide (x = 0))
    ∧ (s ++ tail).dropWhile (fun x => !decide (x = 0)) = tail.dropWhile (fun x => !decide (x = 0)) := by
  have hp : ∀ a ∈ s, (!decide (a = 0)) = true := fun a ha => by simp [hs a ha]
  exact ⟨List.takeWhile_append_of_pos hp, List.dropWhile_append_of_pos hp⟩

/-! ### CPF items -/

def Identity.WF (i : Identity) : Prop :=
  i.version < 65536 ∧ i.family < 65536 ∧ i.port < 65536 ∧ i.addr < 4294967296 ∧ i.vendor < 65536
  ∧ i.devType < 65536 ∧ i.product < 65536 ∧ i.revision < 65536 ∧ i.statusWord < 65536
  ∧ i.serial < 4294967296 ∧ i.name.length < 256 ∧ i.state.isSome

def Legacy1.WF (l : Legacy1) : Prop :=
  l.version < 65536 ∧ l.unknown1 < 65536 ∧ l.family < 65536 ∧ l.port < 65536 ∧ l.addr < 4294967296
  ∧ 1 ≤ l.ip.length ∧ l.ip.length ≤ 16 ∧ ∀ b ∈ l.ip, b ≠ 0

theorem decodeIdentity_encode (i : Identity) (h : i.WF) : decodeIdentity (encodeIdentity i) = some i := by
  cases i
  simp only [Identity.WF] at h
  obtain ⟨st, rfl⟩ := Option.isSome_iff_exists.mp h.2.2.2.2.2.2.2.2.2.2.2
  simp [encodeIdentity, decodeIdentity, takeLE_append, takeBE_append, takeN_append, decodeSString_encode,
    -List.reduceReplicate, h]

theorem decodeLegacy1_encode (l : Legacy1) (h : l.WF) : decodeLegacy1 (encodeLegacy1 l) = some l := by
  cases l
  simp only [Legacy1.WF] at h
  have hne := List.length_pos_iff.mp h.2.2.2.2.2.1
  simp [encodeLegacy1, decodeLegacy1, takeLE_append, takeBE_append, takeN_append, takeWhile_nz _ _ h.2.2.2.2.2.2.2,
    -List.reduceReplicate, h, hne]

def ItemBody.WF (ty : Nat) : ItemBody → Prop
  | .empty => True
  | .usend u => ty = 0x00B2 ∧ u.WF
  | .connId n => ty = 0x00A1 ∧ n < 4294967296
  | .connData seq req => ty = 0x00B1 ∧ seq < 65536 ∧ req ≠ []
  | .commSvc v c name => ty = 0x0100 ∧ v < 65536 ∧ c < 65536 ∧ name ≠ [] ∧ ∀ b ∈ name, b ≠ 0
  | .identity i => ty = 0x000C ∧ i.WF
  | .legacy1 l => ty = 0x0001 ∧ l.WF
  | .raw bs => recognised ty = false ∧ bs ≠ []

theorem decodeItemBody_encode (ty : Nat) (b : ItemBody) (h : b.WF ty) :
    decodeItemBody ty (encodeItemBody b) = some b := by
  cases b with
  | empty => simp [encodeItemBody, decodeItemBody]
  | usend u =>
    have hd := decodeUSend_encode u h.2
    simp [encodeItemBody, decodeItemBody, h.1, hd, ne_nil_of_decode hd rfl]
  | connId n | connData seq req =>
    simp only [ItemBody.WF] at h
    simp [encodeItemBody, decodeItemBody, le_eq_nil_iff, takeLE_append, takeLE_exact, h]
  | commSvc v c name =>
    simp only [ItemBody.WF] at h
    simp [encodeItemBody, decodeItemBody, le_eq_nil_iff, takeLE_append, takeWhile_nz _ _ h.2.2.2.2, h]
  | identity i =>
    have hd := decodeIdentity_encode i h.2
    simp [encodeItemBody, decodeItemBody, h.1, hd, ne_nil_of_decode hd rfl]
  | legacy1 l =>
    have hd := decodeLegacy1_encode l h.2
    simp [encodeItemBody, decodeItemBody, h.1, hd, ne_nil_of_decode hd rfl]
  | raw bs =>
    simp only [ItemBody.WF, recognised, Bool.or_eq_false_iff, beq_eq_false_iff_ne, ne_eq] at h
    simp [encodeItemBody, decodeItemBody, h]

def Item.WF (it : Item) : Prop :=
  it.typeId < 65536 ∧ it.body.WF it.typeId ∧ (encodeItemBody it.body).length < 65536

/-- every item, of recognised type or not, is delimited by its own length field -/
theorem decodeItem_encode (it : Item) (rest : Bytes) (h : it.WF) :
    decodeItem (encodeItem it ++ rest) = some (it, rest) := by
  cases it
  simp only [Item.WF] at h
  simp [encodeItem, decodeItem, takeLE_append, takeN_append, decodeItemBody_encode _ _ h.2.1, h]

def ItemsWF (items : List Item) : Prop := ∀ it ∈ items, it.WF

theorem decodeItems_encode (items : List Item) (rest : Bytes) (h : ItemsWF items) :
    decodeItems items.length ((items.map encodeItem).flatten ++ rest) = some (items, rest) := by
  induction items with
  | nil => rfl
  | cons it more ih =>
    rw [ItemsWF, List.forall_mem_cons] at h
    simp [decodeItems, decodeItem_encode it _ h.1, ih h.2]

def CpfWF : Option (List Item) → Prop
  | none => True
  | some items => items.length < 65536 ∧ ItemsWF items

/-- **CPF round trip: 0..N items, each length-delimited** -/
theorem decodeCpf_encode (cpf : Option (List Item)) (h : CpfWF cpf) : decodeCpf (encodeCpf cpf) = some cpf := by
  cases cpf with
  | none => simp [encodeCpf, decodeCpf]
  | some items =>
    have := decodeItems_encode items [] h.2
    simp only [List.append_nil] at this
    simp [encodeCpf, decodeCpf, le_eq_nil_iff, takeLE_append, h.1, this]

/-! ### commands and whole messages -/

def Cmd.WF (command : Nat) : Cmd → Prop
  | .register v o => command = 0x0065 ∧ v < 65536 ∧ o < 65536
  | .unregister => command = 0x0066
  | .sendData i t cpf => (command = 0x006F ∨ command = 0x0070) ∧ i < 4294967296 ∧ t < 65536 ∧ CpfWF cpf
  | .cpfService cpf => (command = 0x0001 ∨ command = 0x0004 ∨ command = 0x0063 ∨ command = 0x0064) ∧ CpfWF cpf

theorem decodeCmd_encode (command : Nat) (c : Cmd) (h : c.WF command) :
    decodeCmd command (encodeCmd c) = some c := by
  cases c with
  | register v o | unregister =>
    simp only [Cmd.WF] at h
    simp [encodeCmd, decodeCmd, takeLE_append, takeLE_exact, h]
  | sendData i t cpf =>
    obtain ⟨hc, hi, ht, hcpf⟩ := h
    rcases hc with rfl | rfl <;> simp [encodeCmd, decodeCmd, takeLE_append, hi, ht, decodeCpf_encode cpf hcpf]
  | cpfService cpf =>
    obtain ⟨hc, hcpf⟩ := h
    rcases hc with rfl | rfl | rfl | rfl <;> simp [encodeCmd, decodeCmd, decodeCpf_encode cpf hcpf]

def Message.WF (m : Message) : Prop :=
  m.hdr.WF ∧ m.cmd.WF m.hdr.command ∧ (encodeCmd m.cmd).length < 65536

/-- **Whole-message round trip: header, command, CPF items, Unconnected Send; followed by anything.** -/
theorem decodeMessage_encode (m : Message) (rest : Bytes) (h : m.WF) :
    decodeMessage (encodeMessage m ++ rest) = some (m, rest) := by
  simp [encodeMessage, decodeMessage, decodeFrame_encode ⟨m.hdr, encodeCmd m.cmd⟩ rest h.1 h.2.2,
    decodeCmd_encode _ _ h.2.1]

end Cpppo.Codec
