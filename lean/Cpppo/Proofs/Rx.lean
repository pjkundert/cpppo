import Mathlib.Computability.RegularExpressions
import Cpppo.Model.Rx
import Cpppo.Proofs.Longest

/-!
Semantics of the expressions of `Cpppo.Model.Rx` and correctness of the derivative matcher.

* `Rx.lang r : Language Sym` — the standard denotational semantics, with Mathlib's `Language`
  operations (`+`, `*`, `∗`);
* `rmatch_iff` — the derivative matcher decides `lang`;
* `inhabited_iff` — `inhabited` decides non-emptiness;
* `toRE σ r : RegularExpression Sym` — the expression as a Mathlib `RegularExpression` over a finite
  alphabet `σ` (`.` and negated classes become finite sums), and `matches'_toRE`: on words over `σ`
  Mathlib's `matches'` is `lang`;
* `specGo_*` — the specification run consumes the longest prefix that can be extended to a sentence.
-/
set_option linter.dupNamespace false
namespace Cpppo.Rx
open Language Computability

namespace Rx

/-- standard regular-expression semantics -/
def lang : Rx → Language Sym
  | none => 0
  | eps => 1
  | lit c => {[c]}
  | cls neg cs => {w | ∃ c, w = [c] ∧ clsMatch neg cs c = true}
  | dot => {w | ∃ c, w = [c]}
  | alt r s => lang r + lang s
  | cat r s => lang r * lang s
  | star r => KStar.kstar (lang r)

theorem lang_alt (r s : Rx) : lang (alt r s) = lang r + lang s := rfl
theorem lang_cat (r s : Rx) : lang (cat r s) = lang r * lang s := rfl

theorem mem_lang_lit {c : Sym} {w : List Sym} : w ∈ lang (lit c) ↔ w = [c] := Iff.rfl
theorem mem_lang_cls {neg : Bool} {cs : List Sym} {w : List Sym} :
    w ∈ lang (cls neg cs) ↔ ∃ c, w = [c] ∧ clsMatch neg cs c = true := Iff.rfl
theorem mem_lang_dot {w : List Sym} : w ∈ lang dot ↔ ∃ c, w = [c] := Iff.rfl
theorem mem_lang_none {w : List Sym} : w ∈ lang none ↔ False := Iff.rfl
theorem mem_lang_eps {w : List Sym} : w ∈ lang eps ↔ w = [] := Language.mem_one w
theorem mem_lang_alt {r s : Rx} {w : List Sym} : w ∈ lang (alt r s) ↔ w ∈ lang r ∨ w ∈ lang s :=
  Language.mem_add _ _ _
theorem mem_lang_cat {r s : Rx} {w : List Sym} :
    w ∈ lang (cat r s) ↔ ∃ a ∈ lang r, ∃ b ∈ lang s, a ++ b = w := Language.mem_mul

theorem nullable_iff (r : Rx) : nullable r = true ↔ [] ∈ lang r := by
  induction r with
  | none | eps | lit _ | cls _ _ | dot =>
    simp [nullable, mem_lang_none, mem_lang_eps, mem_lang_lit, mem_lang_cls, mem_lang_dot]
  | alt r s ihr ihs => simp [nullable, mem_lang_alt, ihr, ihs]
  | cat r s ihr ihs =>
    simp only [nullable, mem_lang_cat, Bool.and_eq_true, ihr, ihs, List.append_eq_nil_iff, exists_eq_right_right]
  | star r _ => exact iff_of_true rfl (Language.nil_mem_kstar _)

theorem cons_mem_mul {l m : Language Sym} (c : Sym) (w : List Sym) :
    c :: w ∈ l * m ↔ ([] ∈ l ∧ c :: w ∈ m) ∨ ∃ a, c :: a ∈ l ∧ ∃ b ∈ m, a ++ b = w := by
  rw [Language.mem_mul]
  constructor
  · rintro ⟨_ | ⟨x, a⟩, ha, b, hb, hab⟩
    · exact .inl ⟨ha, hab ▸ hb⟩
    · obtain ⟨rfl, rfl⟩ := List.cons.inj hab
      exact .inr ⟨a, ha, b, hb, rfl⟩
  · rintro (⟨h1, h2⟩ | ⟨a, ha, b, hb, rfl⟩)
    · exact ⟨[], h1, c :: w, h2, rfl⟩
    · exact ⟨c :: a, ha, b, hb, rfl⟩

/-- a sentence `c :: w` of a star: a first non-empty piece supplies the `c` -/
theorem cons_mem_kstar {l : Language Sym} (c : Sym) (w : List Sym) :
    c :: w ∈ l∗ ↔ ∃ a, c :: a ∈ l ∧ ∃ b ∈ l∗, a ++ b = w := by
  constructor
  · intro h
    obtain ⟨S, hS, hall⟩ := Language.mem_kstar_iff_exists_nonempty.mp h
    match S, hS, hall with
    | [] :: _, _, hall => exact absurd rfl (hall [] List.mem_cons_self).2
    | (x :: y) :: S, hS, hall =>
      obtain ⟨rfl, rfl⟩ := List.cons.inj hS
      exact ⟨y, (hall _ List.mem_cons_self).1, _,
        Language.join_mem_kstar fun z hz => (hall z (List.mem_cons_of_mem _ hz)).1, rfl⟩
  · rintro ⟨a, ha, b, hb, rfl⟩
    obtain ⟨S, rfl, hS⟩ := Language.mem_kstar.mp hb
    exact Language.mem_kstar.mpr ⟨(c :: a) :: S, rfl, List.forall_mem_cons.mpr ⟨ha, hS⟩⟩

/-- the derivative is the left quotient by one symbol -/
theorem mem_deriv (c : Sym) (r : Rx) (w : List Sym) : w ∈ lang (deriv c r) ↔ c :: w ∈ lang r := by
  fun_induction deriv c r generalizing w with
  | case1 | case2 | case3 | case7 => -- `none`, `eps`, `lit c`, `dot`
    simp [mem_lang_none, mem_lang_eps, mem_lang_lit, mem_lang_dot]
  | case4 a h => simp [mem_lang_none, mem_lang_lit, Ne.symm h] -- `lit a`, `a ≠ c`
  | case5 neg cs h | case6 neg cs h => -- class that matches `c` / does not
    simp [mem_lang_eps, mem_lang_none, mem_lang_cls, h]
  | case8 r s ihr ihs => simp only [mem_lang_alt, ihr, ihs] -- `alt`
  | case9 r s hn ihr ihs => -- `cat`, `r` nullable
    rw [lang_cat r s, cons_mem_mul, ← nullable_iff, ← ihs]
    simp only [mem_lang_alt, mem_lang_cat, ihr, hn, true_and]; exact or_comm
  | case10 r s hn ihr => -- `cat`, `r` not nullable
    rw [lang_cat r s, cons_mem_mul, ← nullable_iff]
    simp only [mem_lang_cat, ihr, hn, Bool.false_eq_true, false_and, false_or]
  | case11 r ih => -- `star`
    show w ∈ lang (deriv c r) * (lang r)∗ ↔ c :: w ∈ (lang r)∗
    simp only [cons_mem_kstar, Language.mem_mul, ih]

theorem mem_derivs (r : Rx) (p w : List Sym) : w ∈ lang (derivs r p) ↔ p ++ w ∈ lang r := by
  induction p generalizing r with
  | nil => exact Iff.rfl
  | cons c p ih => exact (ih (deriv c r)).trans (mem_deriv c r (p ++ w))

theorem rmatch_iff (r : Rx) (w : List Sym) : rmatch r w = true ↔ w ∈ lang r := by
  unfold rmatch
  rw [nullable_iff, mem_derivs, List.append_nil]

/-- the alphabet is unbounded: some symbol is not in the list -/
theorem exists_not_mem (cs : List Nat) : ∃ c : Nat, c ∉ cs :=
  (Infinite.exists_notMem_finset cs.toFinset).imp fun _ h => mt List.mem_toFinset.mpr h

theorem inhabited_iff (r : Rx) : inhabited r = true ↔ ∃ w, w ∈ lang r := by
  induction r with
  | none => simp [inhabited, mem_lang_none]
  | eps => simp [inhabited, mem_lang_eps]
  | lit c => exact iff_of_true rfl ⟨[c], rfl⟩
  | cls neg cs =>
    rw [inhabited]
    cases neg with
    | true =>
      obtain ⟨c, hc⟩ := exists_not_mem cs
      exact iff_of_true rfl ⟨[c], c, rfl, by simpa [clsMatch] using hc⟩
    | false => cases cs with
      | nil => exact iff_of_false Bool.false_ne_true (by rintro ⟨_, _, _, h⟩; exact Bool.false_ne_true h)
      | cons x xs => exact iff_of_true rfl ⟨[x], x, rfl, List.contains_iff_mem.mpr List.mem_cons_self⟩
  | dot => exact iff_of_true rfl ⟨[0], 0, rfl⟩
  | alt r s ihr ihs => simp only [inhabited, mem_lang_alt, Bool.or_eq_true, ihr, ihs, exists_or]
  | cat r s ihr ihs =>
    simp only [inhabited, Bool.and_eq_true, ihr, ihs]
    exact Set.image2_nonempty_iff.symm -- a product `image2 (· ++ ·)` is non-empty iff both factors are
  | star r _ => exact iff_of_true rfl ⟨[], Language.nil_mem_kstar _⟩

/-- `p` can be extended to a sentence -/
def Viable (L : Language Sym) (p : List Sym) : Prop := ∃ v, p ++ v ∈ L

theorem viable_derivs (r : Rx) (p : List Sym) : Viable (lang r) p ↔ ∃ v, v ∈ lang (derivs r p) := by
  simp only [Viable, mem_derivs]

theorem viable_iff (r : Rx) (p : List Sym) : viable r p = true ↔ Viable (lang r) p :=
  (inhabited_iff _).trans (viable_derivs r p).symm

theorem Viable.prefix {L : Language Sym} {p q : List Sym} (h : Viable L (p ++ q)) : Viable L p := by
  obtain ⟨v, hv⟩ := h
  exact ⟨q ++ v, by rwa [← List.append_assoc]⟩

theorem specGo_eq (r : Rx) (w : List Sym) :
    specGo r w = longestGo (fun r c => deriv c r) inhabited r w := by
  fun_induction specGo r w with -- branches as for `longestGo`
  | case1 r => rfl
  | case2 r c w hk p e hs ih => rw [longestGo, if_pos hk, ← ih, hs]
  | case3 r c w hk => rw [longestGo, if_neg hk]

theorem specGo_derivs (r : Rx) (w : List Sym) : (specGo r w).2 = derivs r (specGo r w).1 := by
  rw [specGo_eq]; exact longestGo_run _ _ w r

theorem specGo_spec (r : Rx) (h : inhabited r = true) (w : List Sym) :
    (specGo r w).1 <+: w ∧ Viable (lang r) (specGo r w).1 ∧
      ∀ p, p <+: w → Viable (lang r) p → p.length ≤ (specGo r w).1.length := by
  rw [specGo_eq]
  exact longestGo_spec (I := fun _ => True) (fun _ _ _ => trivial)
    (fun e c ⟨v, hv⟩ => ⟨c :: v, (mem_deriv c e v).mp hv⟩) (fun e _ => inhabited_iff e) w r (viable_derivs r)
    trivial ((inhabited_iff r).mp h)

def sumChars : List Sym → RegularExpression Sym
  | [] => 0
  | c :: cs => RegularExpression.char c + sumChars cs

theorem matches'_sumChars (cs : List Sym) (w : List Sym) :
    w ∈ (sumChars cs).matches' ↔ ∃ c ∈ cs, w = [c] := by
  induction cs with
  | nil => simp [sumChars]
  | cons c cs ih =>
    simp only [sumChars, RegularExpression.matches'_add, RegularExpression.matches'_char, Language.mem_add,
      ih, List.mem_cons, exists_eq_or_imp]
    rfl

/-- the expression over the finite alphabet `σ`, as a Mathlib `RegularExpression` -/
def toRE (σ : List Sym) : Rx → RegularExpression Sym
  | none => 0
  | eps => 1
  | lit c => RegularExpression.char c
  | cls neg cs => sumChars (σ.filter fun c => clsMatch neg cs c)
  | dot => sumChars σ
  | alt r s => toRE σ r + toRE σ s
  | cat r s => toRE σ r * toRE σ s
  | star r => RegularExpression.star (toRE σ r)

theorem matches'_toRE (σ : List Sym) (r : Rx) (w : List Sym) (hw : ∀ c ∈ w, c ∈ σ) :
    w ∈ (toRE σ r).matches' ↔ w ∈ lang r := by
  induction r generalizing w with
  | none | eps | lit _ => simp [toRE, lang]
  | cls neg cs =>
    simp only [toRE, lang, matches'_sumChars, List.mem_filter]
    constructor
    · rintro ⟨c, ⟨_, hm⟩, rfl⟩; exact ⟨c, rfl, hm⟩
    · rintro ⟨c, rfl, hm⟩; exact ⟨c, ⟨hw c (List.mem_singleton_self c), hm⟩, rfl⟩
  | dot =>
    simp only [toRE, lang, matches'_sumChars]
    constructor
    · rintro ⟨c, _, rfl⟩; exact ⟨c, rfl⟩
    · rintro ⟨c, rfl⟩; exact ⟨c, hw c (List.mem_singleton_self c), rfl⟩
  | alt r s ihr ihs =>
    simp only [toRE, lang, RegularExpression.matches'_add, Language.mem_add, ihr w hw, ihs w hw]
  | cat r s ihr ihs =>
    simp only [toRE, lang, RegularExpression.matches'_mul, Language.mem_mul]
    constructor <;> rintro ⟨a, ha, b, hb, rfl⟩ <;> rw [List.forall_mem_append] at hw
    · exact ⟨a, (ihr a hw.1).mp ha, b, (ihs b hw.2).mp hb, rfl⟩
    · exact ⟨a, (ihr a hw.1).mpr ha, b, (ihs b hw.2).mpr hb, rfl⟩
  | star r ih =>
    simp only [toRE, lang, RegularExpression.matches'_star, Language.mem_kstar]
    constructor <;> rintro ⟨S, rfl, hS⟩ <;> rw [List.forall_mem_flatten] at hw
    · exact ⟨S, rfl, fun y hy => (ih y (hw y hy)).mp (hS y hy)⟩
    · exact ⟨S, rfl, fun y hy => (ih y (hw y hy)).mpr (hS y hy)⟩

theorem lang_plus (r : Rx) : lang (plus r) = lang r * KStar.kstar (lang r) := rfl
theorem lang_opt (r : Rx) : lang (opt r) = lang r + 1 := rfl

theorem lang_pow (r : Rx) (k : Nat) : lang (pow r k) = lang r ^ k := by
  induction k with
  | zero => exact (pow_zero _).symm
  | succ k ih => rw [pow, lang_cat, ih, pow_succ']

theorem lang_optPow (r : Rx) (k : Nat) : lang (optPow r k) = (lang r + 1) ^ k := by
  induction k with
  | zero => exact (pow_zero _).symm
  | succ k ih => rw [optPow, lang_cat, lang_opt, ih, pow_succ']

/-- `r{m,n}`: `m` copies followed by up to `n - m` more -/
theorem lang_rep (r : Rx) (m n : Nat) (h : m ≤ n) :
    lang (rep r m n) = lang r ^ m * (lang r + 1) ^ (n - m) := by
  rw [rep, if_neg (Nat.not_lt.mpr h), lang_cat, lang_pow, lang_optPow]

end Rx
end Cpppo.Rx
