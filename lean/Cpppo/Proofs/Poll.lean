import Cpppo.Model.Poll
import Cpppo.Proofs.Merge
/-! The polling model.  Address translation over a well-formed bank table (`bank_unique`,
`translate_of_mem`, `translate_run`); `piece_translate`: every range a cycle polls lies inside one bank
(`sweep_oneBank`) and so translates cell by cell into one run of offsets of one Modbus function; the store
fold (`lookup_stepRange`, `fold_lookup_in`, `fold_lists`). -/
namespace Cpppo.Poll
open Cpppo.Merge

/-- The bank table is usable with 10000-blocks of size `block`: offsets are non-negative and no two
banks have addresses in the same block (so a merged range, which never leaves a block, never mixes
two Modbus functions). -/
def BanksWF (block : Nat) (banks : List Bank) : Prop :=
  (∀ e ∈ banks, e.1 ≤ e.2.1 ∧ e.2.2.2 ≤ e.1) ∧
  banks.Pairwise (fun e f => e.2.1 / block < f.1 / block ∨ f.2.1 / block < e.1 / block)

instance (block : Nat) (banks : List Bank) : Decidable (BanksWF block banks) := by
  unfold BanksWF; infer_instance

theorem translate_some {banks : List Bank} {a k o : Nat} (h : translate banks a = some (k, o)) :
    ∃ e ∈ banks, (e.1 ≤ a ∧ a ≤ e.2.1) ∧ k = e.2.2.1 ∧ o = a - e.2.2.2 := by
  revert h
  -- the branches of `translate`: 1 = no bank left, 2 = the head bank holds the address, 3 = look further
  fun_induction translate banks a with
  | case1 => nofun
  | case2 lo hi k' base bs a hin => -- head bank
    intro h
    obtain ⟨rfl, rfl⟩ := Prod.mk.inj (Option.some.inj h)
    exact ⟨_, .head _, hin, rfl, rfl⟩
  | case3 lo hi k' base bs a _ ih => -- further
    intro h
    obtain ⟨e, he, h'⟩ := ih h
    exact ⟨e, .tail _ he, h'⟩

section
variable {block : Nat} {banks : List Bank} (hwf : BanksWF block banks) {e : Bank} (he : e ∈ banks)
include hwf he

/-- in a well-formed table, addresses of one block belong to one bank -/
theorem bank_unique {f : Bank} (hf : f ∈ banks) {y z : Nat} (hy : e.1 ≤ y ∧ y ≤ e.2.1)
    (hz : f.1 ≤ z ∧ z ≤ f.2.1) (hyz : y / block = z / block) : e = f := by
  -- `BanksWF` separates any two banks at different positions of the table, in either order
  have := List.Pairwise.forall_of_forall_of_flip
    (R := fun e f : Bank => e = f ∨ e.2.1 / block < f.1 / block ∨ f.2.1 / block < e.1 / block)
    (fun _ _ => Or.inl rfl) (hwf.2.imp Or.inr) (hwf.2.imp fun h => Or.inr h.symm) he hf
  refine this.resolve_right fun hsep => ?_
  have h1 : e.1 / block ≤ y / block := Nat.div_le_div_right hy.1
  have h2 : y / block ≤ e.2.1 / block := Nat.div_le_div_right hy.2
  have h3 : f.1 / block ≤ z / block := Nat.div_le_div_right hz.1
  have h4 : z / block ≤ f.2.1 / block := Nat.div_le_div_right hz.2
  omega

theorem translate_of_mem {x : Nat} (hx : e.1 ≤ x ∧ x ≤ e.2.1) :
    translate banks x = some (e.2.2.1, x - e.2.2.2) := by
  fun_induction translate banks x with
  | case1 => nomatch he
  | case2 lo hi k base bs x hin => -- head bank: it is `e`
    rw [← bank_unique hwf (List.mem_cons_self ..) he hin hx rfl]
  | case3 lo hi k base bs x hout ih => -- further: `e` is not the head
    rcases List.mem_cons.mp he with rfl | he
    · exact (hout hx).elim
    · exact ih ⟨fun e he => hwf.1 e (List.mem_cons_of_mem _ he), hwf.2.of_cons⟩ he hx

theorem translate_run {a c i : Nat} (hlo : e.1 ≤ a) (hhi : a + c ≤ e.2.1 + 1) (hi : i < c) :
    translate banks (a + i) = some (e.2.2.1, a - e.2.2.2 + i) := by
  have hbase : e.2.2.2 ≤ a := Nat.le_trans (hwf.1 e he).2 hlo
  have hin : e.1 ≤ a + i ∧ a + i ≤ e.2.1 := ⟨Nat.le_add_right_of_le hlo, by omega⟩
  rw [translate_of_mem hwf he hin, Nat.sub_add_comm hbase]

end

/-- `_read` accepts the address `y` -/
def Valid (banks : List Bank) (y : Nat) : Prop := ∃ k o, translate banks y = some (k, o)

/-- all polled addresses are valid Modbus addresses -/
def KeysValid (banks : List Bank) (data : Data) : Prop := ∀ kv ∈ data, Valid banks kv.1

/-- Swept over valid single addresses, every block lies inside one bank: a block absorbs only addresses
of its own 10000-block, hence of its own bank. -/
theorem sweep_oneBank {block reach : Nat} {banks : List Bank} (hwf : BanksWF block banks) {base len : Nat}
    {rest : List Range} (hsorted : ByAddr ((base, len) :: rest))
    (hreq : ∀ r ∈ (base, len) :: rest, r.2 = 1 ∧ Valid banks r.1) :
    ∀ s ∈ sweep true block reach base len rest,
      ∃ e ∈ banks, (e.1 ≤ s.1 ∧ s.1 ≤ e.2.1) ∧ s.1 + s.2 ≤ e.2.1 + 1 := by
  refine sweep_forall hsorted ?_ ?_ hreq
  · intro r ⟨h1, k, o, hk⟩ -- a single valid address lies inside its bank
    obtain ⟨e, he, hin, _⟩ := translate_some hk
    exact ⟨e, he, hin, by rw [h1]; exact Nat.succ_le_succ hin.2⟩
  intro base len a c ⟨e, he, hbase, hend⟩ ⟨hc, k, o, hk⟩ hle hblk _
  obtain ⟨f, hf, hfa, _⟩ := translate_some hk
  obtain rfl : c = 1 := hc
  obtain rfl := bank_unique hwf he hf hbase hfa hblk.symm
  refine ⟨e, he, hbase, ?_⟩
  dsimp only at hend ⊢
  rw [grown_end hle, if_pos rfl]
  exact Nat.max_le.mpr ⟨hend, Nat.succ_le_succ hfa.2⟩

/-- every range a cycle polls is non-empty, translates cell by cell into one run of offsets of one
Modbus function, and is no longer than the default limit at a valid address of that function -/
theorem piece_translate {banks : List Bank} {cfg : Cfg} (hc : 0 < cfg.coil) (hr : 0 < cfg.reg)
    (hwf : BanksWF cfg.block banks) {data : Data} (hkeys : KeysValid banks data) {reach : Nat}
    {rngs : List Range} (hm : merge cfg (keys data) reach none = some rngs) :
    ∀ p ∈ rngs, 1 ≤ p.2 ∧ ∃ k off, (∀ i, i < p.2 → translate banks (p.1 + i) = some (k, off + i)) ∧
      ∃ s o, translate banks s = some (k, o) ∧ p.2 ≤ defaultLimit cfg.coil cfg.reg s := by
  obtain ⟨b, l, rest, hperm, hsorted, rfl⟩ := mergeWith_some hm
  have hmem : ∀ q ∈ (b, l) :: rest, q.2 = 1 ∧ Valid banks q.1 := by
    intro q hq
    obtain ⟨kv, hkv, rfl⟩ := List.mem_map.mp (hperm.mem_iff.mp hq)
    exact ⟨rfl, hkeys kv hkv⟩
  intro p hp
  obtain ⟨s, hs, hps⟩ := List.mem_flatMap.mp hp
  have ⟨hcon, hle⟩ := shatterGo_tiles (effLimit_pos (lim := none) (a := s.1) hc hr) s.1 s.2
  have hin := hcon.mem p hps
  obtain ⟨e, he, hbase, hend⟩ := sweep_oneBank hwf hsorted hmem s hs
  exact ⟨hin.2.2, _, _,
    fun i hi => translate_run hwf he (Nat.le_trans hbase.1 hin.1) (Nat.le_trans hin.2.1 hend) hi,
    s.1, _, translate_of_mem hwf he hbase, hle p hps⟩

theorem cells_length (off c : Nat) : (cells off c).length = c := by simp [cells]

section
variable {banks : List Bank} {dev : Dev} {r : Range}

theorem readRange_of_translate {k off : Nat} (ht : translate banks r.1 = some (k, off)) :
    readRange banks dev r =
      if (cells off r.2).any (dev.bad k) then none else some ((cells off r.2).map (dev.val k)) := by
  rw [readRange, ht]

theorem readRange_some {k off : Nat} (ht : translate banks r.1 = some (k, off))
    (hbad : ∀ i, i < r.2 → dev.bad k (off + i) = false) :
    readRange banks dev r = some ((cells off r.2).map (dev.val k)) := by
  rw [readRange_of_translate ht, if_neg]
  simp only [List.any_eq_true, cells, List.mem_map, List.mem_range, not_exists, not_and]
  rintro x ⟨i, hi, rfl⟩
  simp [hbad i hi]

theorem readRange_eq {k off : Nat} {vals : List Nat} (ht : translate banks r.1 = some (k, off))
    (h : readRange banks dev r = some vals) : vals = (cells off r.2).map (dev.val k) := by
  rw [readRange_of_translate ht] at h
  split at h
  · nomatch h
  · exact (Option.some.inj h).symm

theorem readRange_length {vals : List Nat} (h : readRange banks dev r = some vals) :
    vals.length = r.2 := by
  revert h
  fun_cases readRange banks dev r
  · nofun -- invalid address
  · nofun -- a cell refuses
  · intro h
    rw [← Option.some.inj h, List.length_map, cells_length]

end

theorem lookup_mem {data : Data} {x : Nat} {v : Option Nat} (h : lookup data x = some v) :
    ∃ kv ∈ data, kv.1 = x := by
  revert h
  -- the branches of `lookup`: 1 = empty, 2 = the head has the key, 3 = look further
  fun_induction lookup data x with
  | case1 => nofun
  | case2 w rest => exact fun _ => ⟨_, .head _, rfl⟩
  | case3 k w rest _ ih =>
    intro h
    obtain ⟨kv, hkv, hx⟩ := ih h
    exact ⟨kv, .tail _ hkv, hx⟩

theorem lookup_map (f : Nat → Option Nat → Option Nat) (data : Data) (x : Nat) :
    lookup (data.map fun kv => (kv.1, f kv.1 kv.2)) x = (lookup data x).map (f x) := by
  fun_induction lookup data x with
  | case1 => rfl
  | case2 v rest => simp [lookup]
  | case3 k v rest hk ih => simpa [lookup, hk] using ih

section
variable (data : Data) (a : Nat) (vals : List Nat)

/-- `store` as a map on the values alone (its own lambda returns the untouched pair `kv` as it is) -/
theorem store_eq : store data a vals =
    data.map fun kv => (kv.1, if a ≤ kv.1 ∧ kv.1 < a + vals.length then vals[kv.1 - a]? else kv.2) := by
  unfold store
  apply List.map_congr_left
  intro kv _
  split <;> rfl

theorem store_keys : (store data a vals).map (·.1) = data.map (·.1) := by
  rw [store_eq, List.map_map]; rfl

theorem lookup_store (x : Nat) : lookup (store data a vals) x =
    if a ≤ x ∧ x < a + vals.length then (lookup data x).map fun _ => vals[x - a]? else lookup data x := by
  rw [store_eq, lookup_map (fun k v => if a ≤ k ∧ k < a + vals.length then vals[k - a]? else v)]
  by_cases h : a ≤ x ∧ x < a + vals.length
  · simp only [h, and_self, if_true]
  · simp only [h, if_false, Option.map_id']

end

section
variable (banks : List Bank) (dev : Dev) (rngs : List Range) (acc : Data × List Range × List Range)

theorem lookup_stepRange (r : Range) (x : Nat) : lookup (stepRange banks dev acc r).1 x =
    match readRange banks dev r with
    | some vals =>
      if r.1 ≤ x ∧ x < r.1 + r.2 then (lookup acc.1 x).map fun _ => vals[x - r.1]? else lookup acc.1 x
    | none => lookup acc.1 x := by
  fun_cases stepRange banks dev acc r
  · rename_i vals hrd -- read: the values are stored
    simp only [hrd, lookup_store, readRange_length hrd]
  · rename_i hrd -- refused: the data stay
    simp only [hrd]

theorem fold_keys : (rngs.foldl (stepRange banks dev) acc).1.map (·.1) = acc.1.map (·.1) := by
  induction rngs generalizing acc with
  | nil => rfl
  | cons r rest ih =>
    rw [List.foldl_cons, ih]
    fun_cases stepRange banks dev acc r
    · exact store_keys .. -- read
    · rfl -- refused

/-- a register no polled range contains keeps its value -/
theorem fold_lookup_notin (x : Nat) (hx : ∀ r ∈ rngs, ¬ InRange r x) :
    lookup (rngs.foldl (stepRange banks dev) acc).1 x = lookup acc.1 x := by
  induction rngs generalizing acc with
  | nil => rfl
  | cons r rest ih =>
    rw [List.foldl_cons, ih _ (fun q hq => hx q (.tail _ hq)), lookup_stepRange]
    split
    · exact if_neg (hx r (.head _))
    · rfl

theorem not_inRange_of_disjoint {r q : Range} {x : Nat} (h : InRange r x)
    (hd : r.1 + r.2 ≤ q.1 ∨ q.1 + q.2 ≤ r.1) : ¬ InRange q x := by
  simp only [InRange] at *
  omega

/-- a known register inside a polled range holds the value read for it, or - when that read failed -
what it held before -/
theorem fold_lookup_in (hpw : rngs.Pairwise (fun r q => r.1 + r.2 ≤ q.1)) (r : Range) (hr : r ∈ rngs)
    (x : Nat) (hx : InRange r x) (v : Option Nat) (hv : lookup acc.1 x = some v) :
    lookup (rngs.foldl (stepRange banks dev) acc).1 x =
      match readRange banks dev r with
      | some vals => some vals[x - r.1]?
      | none => some v := by
  -- only `r` touches `x`: the ranges before it end at or before `r.1`, those after it start behind `r`
  obtain ⟨pre, post, rfl⟩ := List.append_of_mem hr
  obtain ⟨_, hpost, hpre⟩ := List.pairwise_append.mp hpw
  rw [List.foldl_append, List.foldl_cons,
    fold_lookup_notin banks dev post _ x fun q hq =>
      not_inRange_of_disjoint hx (.inl (List.rel_of_pairwise_cons hpost hq)),
    lookup_stepRange,
    fold_lookup_notin banks dev pre _ x fun q hq => not_inRange_of_disjoint hx (.inr (hpre q hq r (.head _))),
    hv]
  split
  · exact if_pos hx
  · rfl

theorem fold_lists :
    (rngs.foldl (stepRange banks dev) acc).2.1 = acc.2.1 ++ rngs.filter (fun r => (readRange banks dev r).isSome)
    ∧ (rngs.foldl (stepRange banks dev) acc).2.2 = acc.2.2 ++ rngs.filter (fun r => (readRange banks dev r).isNone) := by
  induction rngs generalizing acc with
  | nil => simp
  | cons r rest ih =>
    obtain ⟨h1, h2⟩ := ih (stepRange banks dev acc r)
    rw [List.foldl_cons, h1, h2]
    fun_cases stepRange banks dev acc r <;> simp [*]

end

end Cpppo.Poll
