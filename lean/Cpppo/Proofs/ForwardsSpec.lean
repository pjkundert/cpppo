import Cpppo.Proofs.Forwards

/-! refinement of the Forward Open table (an insertion-ordered association list, as the dict) to the simplest
possible specification: a partial map `Key → Option Entry` -/
namespace Cpppo.Forwards

/-- the abstract table -/
abbrev Spec := Key → Option Entry

def Spec.step (f : Spec) : Op → Spec × Out
  | .fopen p cid serial tgt =>
    match f ⟨p, cid⟩ with
    | some _ => (f, .refused)
    | none => (fun k => if k = ⟨p, cid⟩ then some ⟨serial, tgt⟩ else f k, .opened)
  | .fclose p serial =>
    (fun k => match f k with
      | some e => if k.peer = p ∧ e.serial = serial then none else some e
      | none => none, .closed)
  | .fin p => (fun k => if k.peer = p then none else f k, .ended)
  | .send p cid pl => (f, respond (f ⟨p, cid⟩) pl)

def Spec.run (f : Spec) : List Op → Spec × List Out
  | [] => (f, [])
  | op :: ops =>
    let r := Spec.step f op
    let rs := Spec.run r.1 ops
    (rs.1, r.2 :: rs.2)

theorem lookup_filter (f : Key × Entry → Bool) (t : Table) (k : Key) (hn : KeysNodup t) :
    lookup (t.filter f) k = match lookup t k with
      | some e => if f (k, e) then some e else none
      | none => none := by
  revert hn
  -- the cases of `lookup`: the empty table, `k` first, `k` sought in the rest
  fun_induction lookup t k
  case case1 => exact fun _ => rfl
  case case2 e r =>
    intro hn
    cases hf : f (k, e)
    · -- the entry goes, and no later one has its key
      simp only [List.filter, hf]
      exact (lookup_eq_none_iff _ _).mpr fun hm => (List.nodup_cons.mp hn).1 ((List.filter_sublist.map _).subset hm)
    · simp [List.filter, hf, lookup]
  case case3 k' e r hk ih =>
    intro hn
    cases hf : f (k', e) <;> simpa only [List.filter, hf, lookup, hk, if_false] using ih (List.nodup_cons.mp hn).2

/-- one concrete step is one abstract step, the table seen through `lookup` -/
theorem step_refines (t : Table) (op : Op) (hn : KeysNodup t) :
    Spec.step (lookup t) op = (lookup (step t op).1, (step t op).2) := by
  cases op with
  | fopen p cid serial tgt =>
    simp only [step, Spec.step]
    cases hl : lookup t ⟨p, cid⟩ with
    | some e => rfl
    | none =>
      refine Prod.ext (funext fun k => ?_) rfl
      simp only [lookup_append, lookup]
      by_cases hk : k = ⟨p, cid⟩
      · subst hk
        simp [hl]
      · simp [hk, Ne.symm hk]
  | fclose p _ | fin p =>
    refine Prod.ext (funext fun k => ?_) rfl
    simp only [step, Spec.step]
    rw [lookup_filter _ t k hn]
    cases lookup t k <;> by_cases h1 : k.peer = p <;> simp [h1]
  | send p cid pl => rfl

theorem Spec.step_congr (f g : Spec) (h : ∀ k, f k = g k) (op : Op) : Spec.step f op = Spec.step g op := by
  have : f = g := funext h
  rw [this]

theorem run_refines (ops : List Op) (t : Table) (hn : KeysNodup t) :
    (∀ k, lookup (run t ops).1 k = (Spec.run (lookup t) ops).1 k) ∧ (run t ops).2 = (Spec.run (lookup t) ops).2 := by
  induction ops generalizing t with
  | nil => exact ⟨fun k => rfl, rfl⟩
  | cons op ops ih =>
    obtain ⟨i1, i2⟩ := ih (step t op).1 (step_keysNodup t op hn)
    simp only [run, Spec.run, step_refines t op hn]
    exact ⟨i1, by rw [i2]⟩

end Cpppo.Forwards
