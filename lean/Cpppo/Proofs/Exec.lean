import Cpppo.Proofs.Frag
import Cpppo.Proofs.Canon

/-! The tag and attribute services (`execTag`, `execAttr`): the storage frame rules, each service's
possible outcomes stated once, and well-formedness of what they store. -/
namespace Cpppo.Logix

theorem attrGet_attrSet (l : List (Nat × Tag)) (a a' : Nat) (t : Tag) :
    attrGet (attrSet l a t) a' = if a = a' then (attrGet l a).map (fun _ => t) else attrGet l a' := by
  induction l with
  | nil => simp [attrGet, attrSet]
  | cons p ps ih =>
    by_cases hk : p.1 = a <;> by_cases ha : a = a' <;> simp_all [attrGet, attrSet]

theorem objGet_objSet (l : List Obj) (c i c' i' : Nat) (f : Obj → Obj)
    (hf : ∀ o, (f o).cls = o.cls ∧ (f o).ins = o.ins) :
    objGet (objSet l c i f) c' i' =
      if c = c' ∧ i = i' then (objGet l c i).map f else objGet l c' i' := by
  induction l with
  | nil => simp [objGet, objSet]
  | cons o os ih =>
    by_cases hc : c = c' ∧ i = i'
    · obtain ⟨rfl, rfl⟩ := hc
      by_cases ho : o.cls = c ∧ o.ins = i <;> simp [objSet, objGet, ho, hf, ih]
    · by_cases ho : o.cls = c ∧ o.ins = i <;> simp [objSet, objGet, ho, hf, hc, ih]

theorem Dev.attr?_setAttr (d : Dev) (c i a c' i' a' : Nat) (t : Tag) :
    (d.setAttr c i a t).attr? c' i' a' =
      if c = c' ∧ i = i' ∧ a = a' then (d.attr? c i a).map (fun _ => t) else d.attr? c' i' a' := by
  simp only [Dev.setAttr, Dev.attr?, Dev.obj?]
  rw [objGet_objSet _ _ _ _ _ (·.setAttr a t) fun _ => ⟨rfl, rfl⟩]
  by_cases hc : c = c' ∧ i = i'
  · obtain ⟨rfl, rfl⟩ := hc
    cases objGet d.objs c i <;> simp [Obj.attr?, Obj.setAttr, attrGet_attrSet]
  · rw [if_neg hc, if_neg fun h => hc ⟨h.1, h.2.1⟩]

theorem Dev.setAttr_symbols (d : Dev) (c i a : Nat) (t : Tag) : (d.setAttr c i a t).symbols = d.symbols :=
  rfl

theorem tagAccess_read_inv {tag : Tag} {B index n off : Nat} {w : List Val} {st : Nat} {vals : List Val}
    (h : tagAccess tag B true index n off w = .read st vals) :
    ∃ beg k, beg = index + off / tag.ty.size ∧ 1 ≤ k ∧ beg + k ≤ index + n ∧ index + n ≤ tag.len
      ∧ vals = (tag.vals.drop beg).take k ∧ (st = 0 ∨ st = 6) ∧ (st = 0 ↔ beg + k = index + n) := by
  rw [tagAccess_read] at h
  have hq := fragCount_pos B tag.ty.size
  generalize fragCount B tag.ty.size = q, off / tag.ty.size = j at h hq ⊢
  split at h
  · next hc =>
    cases h
    refine ⟨_, _, rfl, by omega, by omega, hc.1, rfl, ?_⟩
    split <;> omega
  · cases h

theorem tagAccess_wrote_inv {tag : Tag} {B index n off : Nat} {w : List Val} {t' : Tag}
    (h : tagAccess tag B false index n off w = .wrote t') :
    ∃ beg, beg = index + off / tag.ty.size ∧ 1 ≤ w.length ∧ beg + w.length ≤ index + n ∧ index + n ≤ tag.len
      ∧ t' = { tag with vals := if tag.scalar then w.take 1 else spliceAt tag.vals beg w } := by
  rw [tagAccess_write] at h
  split at h
  · next hc =>
    cases h
    exact ⟨_, rfl, hc.2.1, by omega, hc.1, rfl⟩
  · cases h

theorem tagAccess_read_ne_wrote (tag : Tag) (B index n off : Nat) (w : List Val) (t' : Tag) :
    tagAccess tag B true index n off w ≠ .wrote t' := by
  rw [tagAccess_read]; split <;> nofun

theorem tagAccess_write_ne_read (tag : Tag) (B index n off : Nat) (w : List Val) (st : Nat) (vs : List Val) :
    tagAccess tag B false index n off w ≠ .read st vs := by
  rw [tagAccess_write]; split <;> nofun

/-- range errors are refused (one direction: what the property lists) -/
theorem tagAccess_range_refused {tag : Tag} {B : Nat} {isRead : Bool} {index n off : Nat} {w : List Val}
    (h : tag.len ≤ index ∨ tag.len < n ∨ tag.len < index + n ∨ n = 0) :
    tagAccess tag B isRead index n off w = .refused := by
  cases isRead
  · rw [tagAccess_write, if_neg]
    generalize off / tag.ty.size = j
    omega
  · rw [tagAccess_read, if_neg]
    generalize off / tag.ty.size = j
    omega

theorem resolveTag_some {d : Dev} {self : Nat × Nat} {p : Path} {c i a : Nat} {tag : Tag}
    (hr : resolveTag d self p = some (c, i, a, tag)) : d.attr? c i a = some tag ∧ (c, i) = self := by
  revert hr
  fun_cases resolveTag d self p
  case case4 =>  -- resolved, addressed to this object, attribute present
    rename_i a' hself _ htag
    clear_value a'
    rintro ⟨⟩
    exact ⟨htag, Decidable.of_not_not hself⟩
  all_goals nofun

section
variable (d : Dev) (self : Nat × Nat) (svc : Nat) (isRead isFrag : Bool) (p : Path) (reqTy n off : Nat)
  (data : Bytes)

/-- How a tag service ends: with a failure status and the device untouched (unknown tag 0x05, data
the tag cannot hold or slice refused 0xFF), with elements read, or with a slice assigned. -/
inductive TagOutcome : Dev × Reply → Prop
  | failed (st : Nat) (ext : List Nat) : st = 5 ∨ st = 255 → TagOutcome (d, errReply svc st ext)
  | read {c i a tag st vals} : resolveTag d self p = some (c, i, a, tag) → isRead = true →
      tagAccess tag d.maxBytes true (resolveElement p) n (if isFrag then off else 0) [] = .read st vals →
      TagOutcome (d, { svc := svc, status := st, ty := some tag.ty, vals := vals })
  | wrote {c i a tag w t'} : resolveTag d self p = some (c, i, a, tag) → isRead = false →
      convWrite tag reqTy data = some w →
      tagAccess tag d.maxBytes false (resolveElement p) n (if isFrag then off else 0) w = .wrote t' →
      TagOutcome (d.setAttr c i a t', { svc := svc, status := 0 })

variable {d self svc isRead isFrag p reqTy n off data}

theorem execTag_outcome {x : Dev × Reply} (hx : execTag d self svc isRead isFrag p reqTy n off data = x) :
    TagOutcome d self svc isRead isFrag p reqTy n off data x := by
  subst hx
  fun_cases execTag d self svc isRead isFrag p reqTy n off data
  case case1 => exact .failed _ _ (.inl rfl)  -- unknown tag
  case case2 | case3 => exact .failed _ _ (.inr rfl)  -- data the tag cannot hold; slice refused
  case case4 hr _ hw _ _ hacc =>  -- the access read
    cases isRead
    · exact absurd hacc (tagAccess_write_ne_read _ _ _ _ _ _ _ _)
    · cases hw; exact .read hr rfl hacc
  case case5 hr _ hw _ hacc =>  -- the access wrote
    cases isRead
    · exact .wrote hr rfl hw hacc
    · exact absurd hacc (tagAccess_read_ne_wrote _ _ _ _ _ _ _)

end

/-- every stored element is canonical for the tag's type; a scalar holds exactly one element -/
def Tag.WF (t : Tag) : Prop :=
  (∀ v ∈ t.vals, Val.conv t.ty v = some v) ∧ (t.scalar = true → t.vals.length = 1)

/-- every attribute that can be looked up is well-formed -/
def Dev.WF (d : Dev) : Prop := ∀ c i a t, d.attr? c i a = some t → t.WF

theorem mem_spliceAt {l new : List Val} {beg : Nat} {v : Val} (h : v ∈ spliceAt l beg new) :
    v ∈ l ∨ v ∈ new := by
  unfold spliceAt at h
  simp only [List.mem_append] at h
  rcases h with (h | h) | h
  · exact Or.inl (List.mem_of_mem_take h)
  · exact Or.inr h
  · exact Or.inl (List.mem_of_mem_drop h)

/-- `mapM` into `Option` succeeds element by element -/
theorem mapM_some {α β : Type} {f : α → Option β} {l : List α} {r : List β} (h : l.mapM f = some r) :
    r.length = l.length ∧ ∀ y ∈ r, ∃ x, f x = some y := by
  induction l generalizing r with
  | nil => cases h; exact ⟨rfl, nofun⟩
  | cons x xs ih =>
    simp only [List.mapM_cons, Option.bind_eq_bind, Option.bind_eq_some_iff] at h
    obtain ⟨y, hy, ys, hys, h⟩ := h
    cases h
    obtain ⟨hl, hm⟩ := ih hys
    exact ⟨congrArg (· + 1) hl, List.forall_mem_cons.mpr ⟨⟨x, hy⟩, hm⟩⟩

theorem mapM_conv_canon {t : CipType} {vs ws : List Val} (h : vs.mapM (Val.conv t) = some ws) :
    ∀ v ∈ ws, Val.conv t v = some v := fun v hv =>
  let ⟨x, hx⟩ := (mapM_some h).2 v hv
  (Val.conv_canon t x v hx).1

theorem convWrite_canon {tag : Tag} {reqTy : Nat} {data : Bytes} {ws : List Val}
    (h : convWrite tag reqTy data = some ws) : ∀ v ∈ ws, Val.conv tag.ty v = some v := by
  revert h
  fun_cases convWrite tag reqTy data
  case case3 =>
    intro h
    obtain ⟨vs, -, hvs⟩ := Option.bind_eq_some_iff.mp h
    exact mapM_conv_canon hvs
  all_goals nofun

/-- what both the slice assignment and Set Attribute Single store: in a scalar the first of the new
values, otherwise a list of canonical values -/
theorem Tag.store_wf (t : Tag) {w l : List Val} (hw : ∀ v ∈ w, Val.conv t.ty v = some v)
    (hw1 : 1 ≤ w.length) (hl : ∀ v ∈ l, Val.conv t.ty v = some v) :
    Tag.WF { t with vals := if t.scalar then w.take 1 else l } := by
  unfold Tag.WF
  dsimp only
  cases t.scalar
  · exact ⟨hl, nofun⟩
  · exact ⟨fun v hv => hw v (List.mem_of_mem_take hv), fun _ => by rw [if_pos rfl, List.length_take]; omega⟩

theorem Dev.WF.setAttr {d : Dev} (hwf : d.WF) {t : Tag} (ht : t.WF) (c i a : Nat) :
    (d.setAttr c i a t).WF := by
  intro c' i' a' t' h
  rw [Dev.attr?_setAttr] at h
  split at h
  · obtain ⟨_, _, rfl⟩ := Option.map_eq_some_iff.mp h
    exact ht
  · exact hwf _ _ _ _ h

theorem tagAccess_wrote_wf {tag : Tag} (hwf : tag.WF) {B index n off : Nat} {w : List Val}
    (hw : ∀ v ∈ w, Val.conv tag.ty v = some v) {t' : Tag}
    (h : tagAccess tag B false index n off w = .wrote t') :
    t'.WF ∧ t'.ty = tag.ty ∧ t'.scalar = tag.scalar ∧ t'.vals.length = tag.vals.length := by
  obtain ⟨beg, -, hw1, hle, hfit, rfl⟩ := tagAccess_wrote_inv h
  refine ⟨tag.store_wf hw hw1 fun v hv => (mem_spliceAt hv).elim (hwf.1 v) (hw v), rfl, rfl, ?_⟩
  dsimp only
  split
  · next hs => rw [hwf.2 hs, List.length_take]; omega
  · next hs => exact spliceAt_length _ _ _ (by rw [Tag.len, if_neg hs] at hfit; omega)

theorem chunks_length {k fuel : Nat} {bs : Bytes} {cs : List Bytes} (h : chunks k fuel bs = some cs) :
    bs.length = k * cs.length := by
  revert h
  fun_induction chunks k fuel bs generalizing cs
  case case5 ih =>
    intro h
    obtain ⟨rest, hrest, rfl⟩ := Option.map_eq_some_iff.mp h
    rw [List.length_cons, Nat.mul_add, Nat.mul_one, ← ih hrest, List.length_drop]
    omega
  case case1 | case3 => rintro ⟨⟩; simp_all
  all_goals nofun

theorem decodeVals_length (t : CipType) (hf : t.fixed = true) {bs : Bytes} {vs : List Val}
    (h : decodeVals t bs = some vs) : bs.length = t.size * vs.length := by
  revert h
  fun_cases decodeVals t bs
  case case1 | case2 => cases hf
  case case3 => rintro ⟨⟩; simp [CipType.size, Generated.tt_BOOL_size]
  all_goals
    intro h
    obtain ⟨cs, hcs, rfl⟩ := Option.map_eq_some_iff.mp h
    rw [List.length_map]
    exact chunks_length hcs

/-- the bytes of Set Attribute Single are unpacked with the tag's own format (a BOOL as one byte) -/
theorem setAttr_values {t : Tag} {data : Bytes} {vs : List Val}
    (hf : t.ty.fixed = true) (hlen : data.length = t.ty.size * t.len)
    (hvs : ((match t.ty with | .bool => decodeVals .usint data | ty => decodeVals ty data).bind
              (·.mapM (Val.conv t.ty))) = some vs) :
    (∀ v ∈ vs, Val.conv t.ty v = some v) ∧ vs.length = t.len := by
  obtain ⟨raw, hraw, hconv⟩ := Option.bind_eq_some_iff.mp hvs
  refine ⟨mapM_conv_canon hconv, ?_⟩
  have hrawlen : data.length = t.ty.size * raw.length := by
    split at hraw
    · next hb => rw [hb]; exact decodeVals_length .usint rfl hraw
    · exact decodeVals_length _ hf hraw
  rw [(mapM_some hconv).1, Nat.eq_of_mul_eq_mul_left t.ty.size_pos (hrawlen.symm.trans hlen)]

/-- the reply service code of the attribute services (`execAttr` binds it in a `let`; the outcome below
needs a name for it) -/
def attrSvc : Simple → Nat
  | .getAttrSingle _ => svcGaSng
  | .setAttrSingle _ _ => svcSaSng
  | .getAttrAll _ => svcGaAll
  | _ => 0

/-- What the attribute service `s` can do: answer, with an untyped reply under its own service code,
without touching the device; or, Set Attribute Single only, overwrite one whole attribute with
canonical values, one per element, and acknowledge. -/
inductive AttrOutcome (d : Dev) (s : Simple) : Dev × Reply → Prop
  | quiet (r : Reply) : r.svc = attrSvc s → r.ty = none → AttrOutcome d s (d, r)
  | stored {p : Path} {data : Bytes} {c i a : Nat} {t : Tag} {vs : List Val} : s = .setAttrSingle p data →
      d.attr? c i a = some t → (∀ v ∈ vs, Val.conv t.ty v = some v) → vs.length = t.len → 0 < t.len →
      AttrOutcome d s
        (d.setAttr c i a { t with vals := if t.scalar then vs.take 1 else vs }, { svc := attrSvc s, status := 0 })

theorem execAttr_outcome {d : Dev} {self : Nat × Nat} {s : Simple} {x : Dev × Reply}
    (hx : execAttr d self s = x) : AttrOutcome d s x := by
  subst hx
  unfold execAttr
  dsimp only
  -- every way out but the last returns `d` itself with an error or the bytes asked for
  -- the path must designate an existing object, and that object must be `self` (else status 5)
  generalize resolve d.symbols .no _ = r
  cases r with
  | none => cases s <;> exact .quiet _ rfl rfl
  | some r =>
    obtain ⟨c, i, _⟩ := r
    dsimp only
    by_cases hself : (c, i) = self
    · rw [if_neg (not_not_intro hself)]
      cases ho : d.obj? c i with
      | none => cases s <;> exact .quiet _ rfl rfl
      | some o =>
        cases s with
        | getAttrAll p =>
          dsimp only
          split
          · split <;> exact .quiet _ rfl rfl
          · exact .quiet _ rfl rfl
        | getAttrSingle p =>
          dsimp only
          split
          · split
            · exact .quiet _ rfl rfl
            · split <;> exact .quiet _ rfl rfl
          · exact .quiet _ rfl rfl
        | setAttrSingle p data =>
          dsimp only
          split
          · next a _ =>
            cases ht : o.attr? a with
            | none => exact .quiet _ rfl rfl
            | some t =>
              dsimp only
              by_cases hfix : (!t.ty.fixed) = true
              · rw [if_pos hfix]; exact .quiet _ rfl rfl
              by_cases hlen : data.length ≠ t.ty.size * t.len
              · rw [if_neg hfix, if_pos hlen]; exact .quiet _ rfl rfl
              rw [if_neg hfix, if_neg hlen]
              generalize hvs : Option.bind _ _ = r
              cases r with
              | none => exact .quiet _ rfl rfl
              | some vs =>
                dsimp only
                by_cases hv : (!validSlice t.len 0 t.len) = true
                · rw [if_pos hv]; exact .quiet _ rfl rfl
                rw [if_neg hv]
                obtain ⟨hcanon, hl⟩ :=
                  setAttr_values (by simpa using hfix) (by simpa using hlen) hvs
                refine .stored rfl ?_ hcanon hl (Nat.pos_of_ne_zero (by simpa [validSlice] using hv))
                unfold Dev.attr?; rw [ho]; exact ht
          · exact .quiet _ rfl rfl
        | _ => exact .quiet _ rfl rfl
    · rw [if_pos hself]; cases s <;> exact .quiet _ rfl rfl

theorem execAttr_preserves_wf (d : Dev) (hwf : d.WF) (self : Nat × Nat) (s : Simple) :
    (execAttr d self s).1.WF := by
  generalize hx : execAttr d self s = x
  cases execAttr_outcome hx with
  | quiet => exact hwf
  | stored _ _ hcanon hl ht => exact hwf.setAttr (Tag.store_wf _ hcanon (by omega) hcanon) _ _ _

theorem execAttr_reply_producible (d : Dev) (self : Nat × Nat) (s : Simple) :
    ∃ bs, encodeReply (execAttr d self s).2 = some bs := by
  generalize hx : execAttr d self s = x
  unfold encodeReply
  cases execAttr_outcome hx with
  | quiet _ _ hty => rw [hty]; exact ⟨_, rfl⟩
  | stored => exact ⟨_, rfl⟩

end Cpppo.Logix
