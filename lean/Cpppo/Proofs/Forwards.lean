import Cpppo.Model.Forwards

/-! Lemmas about the Forward Open table of `Model/Forwards.lean`: lookups after appending and filtering, the part of
the table that belongs to one peer (`restrict`) under the operations of that peer and of others, unique keys. -/
namespace Cpppo.Forwards

/- The cases of `lookup t k`, in the order of the definition: 1 the empty table, 2 `k` is the first key, 3 `k` is
sought in the rest. -/
theorem lookup_append (t u : Table) (k : Key) :
    lookup (t ++ u) k = (lookup t k).or (lookup u k) := by
  fun_induction lookup t k
  case case1 => rfl
  case case2 e r => simp [lookup]
  case case3 k' e r hk ih => simpa [lookup, hk] using ih

theorem lookup_filter_of_keep (f : Key × Entry → Bool) (t : Table) (k : Key)
    (hk : ∀ e, f (k, e) = true) : lookup (t.filter f) k = lookup t k := by
  fun_induction lookup t k
  case case1 => rfl
  case case2 e r => simp [List.filter, hk, lookup]
  case case3 k' e r h ih => cases hf : f (k', e) <;> simp [List.filter, hf, lookup, h, ih]

theorem mem_of_lookup {t : Table} {k : Key} {e : Entry} (h : lookup t k = some e) : (k, e) ∈ t := by
  revert h
  fun_induction lookup t k
  case case1 => nofun
  case case2 e' r => rintro ⟨⟩; exact List.mem_cons_self
  case case3 k' e' r hk ih => exact fun h => List.mem_cons_of_mem _ (ih h)

theorem lookup_filter_some {f : Key × Entry → Bool} {t : Table} {k : Key} {e : Entry}
    (h : lookup (t.filter f) k = some e) : f (k, e) = true :=
  (List.mem_filter.mp (mem_of_lookup h)).2

theorem lookup_filter_of_drop (f : Key × Entry → Bool) (t : Table) (k : Key)
    (hk : ∀ e, f (k, e) = false) : lookup (t.filter f) k = none := by
  cases h : lookup (t.filter f) k with
  | none => rfl
  | some e => exact absurd (lookup_filter_some h) (by simp [hk e])

theorem lookup_filter_of_some {f : Key × Entry → Bool} {t : Table} {k : Key} {e : Entry}
    (h : lookup t k = some e) (hf : f (k, e) = true) : lookup (t.filter f) k = some e := by
  revert h
  fun_induction lookup t k
  case case1 => nofun
  case case2 e' r => rintro ⟨⟩; simp [List.filter, hf, lookup]
  case case3 k' e' r hk ih => intro h; cases hf' : f (k', e') <;> simp [List.filter, hf', lookup, hk, ih h]

theorem lookup_restrict (p : Peer) (t : Table) (c : Nat) :
    lookup (restrict p t) ⟨p, c⟩ = lookup t ⟨p, c⟩ :=
  lookup_filter_of_keep _ t _ (by intro e; simp)

theorem restrict_filter_comm (p : Peer) (f : Key × Entry → Bool) (t : Table) :
    restrict p (t.filter f) = (restrict p t).filter f := by
  simp only [restrict, List.filter_filter]
  congr 1
  funext kv
  exact Bool.and_comm _ _

theorem step_restrict_own (p : Peer) (t : Table) (op : Op) (h : op.peer = p) :
    step (restrict p t) op = (restrict p (step t op).1, (step t op).2) := by
  subst h
  cases op with
  | fopen q cid serial tgt =>
    simp only [step, Op.peer, lookup_restrict]
    cases lookup t ⟨q, cid⟩ with
    | some e => rfl
    | none => simp [restrict]
  | fclose q _ | fin q => simp only [step, restrict_filter_comm]
  | send q cid pl => simp only [step, Op.peer, lookup_restrict]

theorem step_restrict_other (p : Peer) (t : Table) (op : Op) (h : op.peer ≠ p) :
    restrict p (step t op).1 = restrict p t := by
  cases op with
  | fopen q cid serial tgt =>
    simp only [step]
    cases lookup t ⟨q, cid⟩ with
    | some e => rfl
    | none => simpa [restrict, Op.peer] using h
  | fclose q _ | fin q =>
    -- the filter keeps every entry of `p`, since `p ≠ q`
    simp only [step, restrict_filter_comm]
    refine List.filter_eq_self.mpr fun kv hkv => ?_
    have hp : kv.1.peer = p := of_decide_eq_true (List.mem_filter.mp hkv).2
    have : kv.1.peer ≠ q := fun e => h (e.symm.trans hp)
    simp [this]
  | send q cid pl => rfl

theorem outsOf_restrict (p : Peer) (ops : List Op) (t : Table) :
    outsOf p t ops = (run (restrict p t) (ops.filter (fun op => decide (op.peer = p)))).2 := by
  induction ops generalizing t with
  | nil => rfl
  | cons op ops ih =>
    by_cases h : op.peer = p
    · simp only [outsOf, h, if_true, List.filter, decide_true, run, step_restrict_own p t op h]
      rw [ih]
    · simp only [outsOf, h, if_false, List.filter, decide_false]
      rw [ih, step_restrict_other p t op h]

theorem stepWire_restrict_own (p : Peer) (t : Table) (op : Op) (h : op.peer = p) :
    stepWire (restrict p t) op = (restrict p (stepWire t op).1, (stepWire t op).2) := by
  unfold stepWire
  rw [step_restrict_own p t op h]
  by_cases hf : (step t op).2 = .failed
  · simp only [hf, if_true]
    rw [step_restrict_own p (step t op).1 (.fin op.peer) h]
  · simp only [hf, if_false]

theorem stepWire_restrict_other (p : Peer) (t : Table) (op : Op) (h : op.peer ≠ p) :
    restrict p (stepWire t op).1 = restrict p t := by
  unfold stepWire
  by_cases hf : (step t op).2 = .failed
  · simp only [hf, if_true]
    rw [step_restrict_other p (step t op).1 (.fin op.peer) h,
      step_restrict_other p t op h]
  · simp only [hf, if_false]
    exact step_restrict_other p t op h

theorem outsOfWire_restrict (p : Peer) (ops : List Op) (t : Table) :
    outsOfWire p t ops = (runWire (restrict p t) (ops.filter (fun op => decide (op.peer = p)))).2 := by
  induction ops generalizing t with
  | nil => rfl
  | cons op ops ih =>
    by_cases h : op.peer = p
    · simp only [outsOfWire, h, if_true, List.filter, decide_true, runWire, stepWire_restrict_own p t op h]
      rw [ih]
    · simp only [outsOfWire, h, if_false, List.filter, decide_false]
      rw [ih, stepWire_restrict_other p t op h]

theorem run_restrict_own (p : Peer) (w : List Op) (t : Table) (h : ∀ op ∈ w, op.peer = p) :
    run (restrict p t) w = (restrict p (run t w).1, (run t w).2) := by
  induction w generalizing t with
  | nil => rfl
  | cons op ops ih =>
    obtain ⟨h1, h2⟩ := List.forall_mem_cons.mp h
    simp only [run, step_restrict_own p t op h1, ih _ h2]

theorem run_restrict_other (p : Peer) (w : List Op) (t : Table) (h : ∀ op ∈ w, op.peer ≠ p) :
    restrict p (run t w).1 = restrict p t := by
  induction w generalizing t with
  | nil => rfl
  | cons op ops ih =>
    obtain ⟨h1, h2⟩ := List.forall_mem_cons.mp h
    simp only [run]
    rw [ih _ h2, step_restrict_other p t op h1]

/-- keys stay unique (the list really is a dict) -/
def KeysNodup (t : Table) : Prop := (t.map (·.1)).Nodup

theorem lookup_eq_none_iff (t : Table) (k : Key) : lookup t k = none ↔ k ∉ t.map (·.1) := by
  fun_induction lookup t k
  case case1 => exact ⟨fun _ => nofun, fun _ => rfl⟩
  case case2 e r => exact ⟨nofun, fun h => absurd List.mem_cons_self h⟩
  case case3 k' e r hk ih =>
    rw [ih, List.map_cons, List.mem_cons, not_or]
    exact ⟨fun h => ⟨fun e => hk e.symm, h⟩, fun h => h.2⟩

theorem step_keysNodup (t : Table) (op : Op) (h : KeysNodup t) : KeysNodup (step t op).1 := by
  cases op with
  | fopen q cid serial tgt =>
    simp only [step]
    cases hl : lookup t ⟨q, cid⟩ with
    | some e => exact h
    | none =>
      have := (lookup_eq_none_iff t _).mp hl
      unfold KeysNodup at *
      simp only [List.map_append, List.map_cons, List.map_nil, List.nodup_append]
      exact ⟨h, by simp, fun a ha b hb => by rw [List.mem_singleton.mp hb]; exact fun e => this (e ▸ ha)⟩
  | fclose q _ | fin q => exact List.Nodup.sublist (List.filter_sublist.map _) h  -- its keys are a sublist
  | send q cid pl => exact h

theorem run_keysNodup (ops : List Op) (t : Table) (h : KeysNodup t) : KeysNodup (run t ops).1 := by
  induction ops generalizing t with
  | nil => exact h
  | cons op ops ih => exact ih _ (step_keysNodup t op h)

end Cpppo.Forwards
