import Cpppo.Proofs.Forwards
import Cpppo.Proofs.Concurrent

/-! the Forward Open table as the shared memory of the thread machine of `Model/Concurrent.lean` -/
namespace Cpppo.Forwards
open Cpppo.Concurrent

/-- in any sequential order of whole requests in which every request carries only operations of its own
session's peer (distinct sessions = distinct peers), the replies session `s` gets are those of its own
requests run alone on its own part of the table -/
theorem proj_runSeq_restrict (peerOf : Sid → Peer) (hinj : ∀ a b, peerOf a = peerOf b → a = b) (s : Sid)
    (ord : List (Sid × List Op)) (t : Table)
    (H : ∀ e ∈ ord, ∀ op ∈ e.2, op.peer = peerOf e.1) :
    proj s (runSeq run t ord).2 = seqReplies (restrict (peerOf s) t) (proj s ord) := by
  induction ord generalizing t with
  | nil => rfl
  | cons e rest ih =>
    obtain ⟨s', w⟩ := e
    obtain ⟨Hw, Hr⟩ := List.forall_mem_cons.mp H
    by_cases hs : s' = s
    · subst hs
      simp only [runSeq, proj_cons_same, seqReplies, ih _ Hr, run_restrict_own (peerOf s') w t Hw]
    · have hne : ∀ op ∈ w, op.peer ≠ peerOf s := fun op hop e => hs (hinj _ _ ((Hw op hop).symm.trans e))
      simp only [runSeq, proj_cons_other (Ne.symm hs), ih _ Hr, run_restrict_other (peerOf s) w t hne]

end Cpppo.Forwards
