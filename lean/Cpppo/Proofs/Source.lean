import Cpppo.Model.Source
/-!
Refinement of the concrete `peeking`/`chaining` model to its abstract view, and the accounting of
`sent` (helper lemmas for `Props/C10.lean`).
-/
namespace Cpppo.Source

theorem pull_flatten (bs : List (List Sym)) :
    bs.flatten = match pull bs with
      | some (x, xs, rest) => x :: xs ++ rest.flatten
      | none => [] := by
  fun_induction pull bs with
  | case1 => rfl  -- no block left
  | case2 bs ih => simpa using ih  -- an empty block is skipped
  | case3 => simp

/-- `next` on the concrete source is `next` on the view -/
theorem next_abs (s : Source) : s.next.1 = s.abs.next.1 ∧ s.next.2.abs = s.abs.next.2 := by
  have := pull_flatten s.chain.reverse
  fun_cases Source.next s with
  | case1 x b hb => simp [Source.abs, Source.view, ASrc.next, hb]  -- a pushed-back symbol
  | case2 hb x c hc => simp [Source.abs, Source.view, ASrc.next, hb, hc]  -- from the current block
  -- from the next non-empty chained block; `StopIteration`
  | case3 hb hc x xs bs hp => rw [hp] at this; simp [Source.abs, Source.view, ASrc.next, hb, hc, this]
  | case4 hb hc hp => rw [hp] at this; simp [Source.abs, Source.view, ASrc.next, hb, hc, this]

theorem push_abs (s : Source) (x : Sym) : (s.push x).abs = s.abs.push x := by
  simp [Source.push, Source.abs, Source.view, ASrc.push]

/-- `peek` shows the head of the view and leaves the view and `sent` unchanged -/
theorem peek_abs (s : Source) : s.peek.1 = s.abs.peek ∧ s.peek.2.abs = s.abs := by
  obtain ⟨h1, h2⟩ := next_abs s
  unfold Source.peek
  cases hb : s.back with
  | cons x b => simp [Source.abs, Source.view, ASrc.peek, hb]
  | nil =>
    generalize s.next = n at h1 h2 ⊢
    obtain ⟨o, s'⟩ := n
    simp only [ASrc.next] at h1 h2
    simp only [ASrc.peek]
    cases hr : s.abs.rest with
    | nil =>
      rw [hr] at h1 h2
      cases h1
      exact ⟨rfl, h2⟩
    | cons y ys =>
      rw [hr] at h1 h2
      cases h1
      refine ⟨rfl, ?_⟩
      simp only at h2
      rw [push_abs, h2, ASrc.push, ← hr, Int.add_sub_cancel]

theorem chain_abs (s : Source) (b : List Sym) : (s.chainBlock b).abs = s.abs.chainBlock b := by
  simp [Source.chainBlock, Source.abs, Source.view, ASrc.chainBlock]

theorem step_abs (s : Source) (o : Op) :
    (s.step o).1 = (s.abs.step o).1 ∧ (s.step o).2.abs = (s.abs.step o).2 := by
  cases o with
  | next => exact next_abs s
  | peek => exact peek_abs s
  | push x => exact ⟨rfl, push_abs s x⟩
  | chain b => exact ⟨rfl, chain_abs s b⟩

theorem steps_abs (s : Source) (ops : List Op) :
    (s.steps ops).1 = (s.abs.steps ops).1 ∧ (s.steps ops).2.abs = (s.abs.steps ops).2 := by
  induction ops generalizing s with
  | nil => simp [Source.steps, ASrc.steps]
  | cons o os ih =>
    obtain ⟨h1, h2⟩ := step_abs s o
    simp only [Source.steps, ASrc.steps, h1, ← h2, ih (s.step o).2, and_self]

theorem step_sent (a : ASrc) (o : Op) (os : List Op) (rs : List (Option Sym)) :
    (a.step o).2.sent + countNext os rs - countPush os
      = a.sent + countNext (o :: os) ((a.step o).1 :: rs) - countPush (o :: os) := by
  cases o with
  | next =>
    cases hr : a.rest <;> simp only [ASrc.step, ASrc.next, hr, countNext, countPush]
    omega
  | peek => cases hp : a.peek <;> simp only [ASrc.step, hp, countNext, countPush]
  | push x => simp only [ASrc.step, ASrc.push, countNext, countPush]; omega
  | chain b => simp only [ASrc.step, ASrc.chainBlock, countNext, countPush]

/-- `sent` is the number of symbols delivered by `next` minus the number pushed back -/
theorem steps_sent (a : ASrc) (ops : List Op) :
    (a.steps ops).2.sent = a.sent + countNext ops (a.steps ops).1 - countPush ops := by
  induction ops generalizing a with
  | nil => simp [ASrc.steps, countNext, countPush]
  | cons o os ih =>
    simp only [ASrc.steps]
    exact (ih _).trans (step_sent a o os _)

/-! ### pushes that restore what was taken (the discipline `remembering.push` asserts) -/

/-- every `push` gives back the most recently taken symbol that has not been given back yet;
`taken` is the stack of those symbols -/
def disciplined : List Sym → ASrc → List Op → Bool
  | _, _, [] => true
  | taken, a, .next :: os =>
    match a.rest with
    | [] => disciplined taken a os
    | x :: _ => disciplined (x :: taken) a.next.2 os
  | taken, a, .peek :: os => disciplined taken a os
  | taken, a, .push x :: os =>
    match taken with
    | y :: t => x == y && disciplined t (a.push x) os
    | [] => false
  | taken, a, .chain b :: os => disciplined taken (a.chainBlock b) os

def takenAfter : List Sym → ASrc → List Op → List Sym
  | taken, _, [] => taken
  | taken, a, .next :: os =>
    match a.rest with
    | [] => takenAfter taken a os
    | x :: _ => takenAfter (x :: taken) a.next.2 os
  | taken, a, .peek :: os => takenAfter taken a os
  | taken, a, .push x :: os => takenAfter taken.tail (a.push x) os
  | taken, a, .chain b :: os => takenAfter taken (a.chainBlock b) os

def chained : List Op → List Sym
  | [] => []
  | .chain b :: os => b ++ chained os
  | _ :: os => chained os

theorem disciplined_accounts (taken : List Sym) (a : ASrc) (ops : List Op)
    (h : disciplined taken a ops = true) :
    (takenAfter taken a ops).reverse ++ (a.steps ops).2.rest = taken.reverse ++ a.rest ++ chained ops
    ∧ (a.steps ops).2.sent - (takenAfter taken a ops).length = a.sent - taken.length := by
  revert h
  fun_induction disciplined taken a ops with
  | case1 taken a => simp [takenAfter, ASrc.steps, chained]
  | case2 taken a os hr ih =>  -- `next` at the end of input
    intro h
    simpa only [takenAfter, hr, ASrc.steps, ASrc.step, ASrc.next, chained] using ih h
  | case3 taken a os x r hr ih =>  -- `next` takes `x`
    intro h
    have := ih h
    simp only [takenAfter, hr, ASrc.steps, ASrc.step, ASrc.next, chained, List.reverse_cons,
      List.append_assoc, List.cons_append, List.nil_append, List.length_cons] at this ⊢
    exact ⟨this.1, by omega⟩
  | case4 taken a os ih =>  -- `peek`
    intro h
    simpa only [takenAfter, ASrc.steps, ASrc.step, chained] using ih h
  | case5 a x os y t ih =>  -- `push x` onto taken `y :: t`
    intro h
    obtain ⟨hxy, h'⟩ := Bool.and_eq_true_iff.mp h
    cases beq_iff_eq.mp hxy
    have := ih h'
    simp only [takenAfter, List.tail_cons, ASrc.steps, ASrc.step, ASrc.push, chained, List.reverse_cons,
      List.append_assoc, List.cons_append, List.nil_append, List.length_cons] at this ⊢
    exact ⟨this.1, by omega⟩
  | case6 a x os => nofun  -- `push` with nothing taken
  | case7 taken a b os ih =>  -- `chain b`
    intro h
    simpa only [takenAfter, ASrc.steps, ASrc.step, ASrc.chainBlock, chained, List.append_assoc] using ih h
end Cpppo.Source
