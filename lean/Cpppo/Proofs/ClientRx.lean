import Cpppo.Model.ClientRxSpec
/-!
The client receive model (C13), bottom up: the framing; `pipeline` is `synchronous` whatever the depth; `flat`: only the
bytes before each EOF / silence matter, not their blocks; `Collects`: what `collect` yields from a state, of which
`harvest` is the checked zip with the requests; what is collected from a reply stream cut at a byte offset.
-/
namespace Cpppo.ClientRx

-- the top digit is below 256 by the range of `n`; then the digits recombine by `n % 256 + 256 * (n / 256) = n`
theorem leNat_le16 (n : Nat) (h : n < 65536) : leNat (le16 n) = n := by
  have h1 : n / 256 % 256 = n / 256 := Nat.mod_eq_of_lt (Nat.div_lt_of_lt_mul h)
  simp only [le16, leNat, h1, Nat.mul_zero, Nat.add_zero, Nat.mod_add_div]

theorem leNat_le32 (n : Nat) (h : n < 4294967296) : leNat (le32 n) = n := by
  have h2 : n / 65536 = n / 256 / 256 := (Nat.div_div_eq_div_mul n 256 256).symm
  have h3 : n / 16777216 % 256 = n / 256 / 256 / 256 := by
    rw [Nat.div_div_eq_div_mul, Nat.div_div_eq_div_mul]; exact Nat.mod_eq_of_lt (Nat.div_lt_of_lt_mul h)
  simp only [le32, leNat, h2, h3, Nat.mul_zero, Nat.add_zero, Nat.mod_add_div]

@[simp] theorem le16_length (n : Nat) : (le16 n).length = 2 := rfl
@[simp] theorem le32_length (n : Nat) : (le32 n).length = 4 := rfl

theorem splitN_append {n : Nat} (a b : Bytes) (h : a.length = n) : splitN n (a ++ b) = some (a, b) := by
  subst h; simp [splitN]

theorem splitN_some {n : Nat} {bs a b : Bytes} (h : splitN n bs = some (a, b)) :
    bs = a ++ b ∧ a.length = n := by
  unfold splitN at h
  split at h
  · cases h
  · cases h
    exact ⟨(List.take_append_drop n bs).symm, List.length_take_of_le (by omega)⟩

theorem splitN_mono {n : Nat} {bs a b : Bytes} (x : Bytes) (h : splitN n bs = some (a, b)) :
    splitN n (bs ++ x) = some (a, b ++ x) := by
  obtain ⟨rfl, rfl⟩ := splitN_some h
  rw [List.append_assoc]; exact splitN_append a (b ++ x) rfl

theorem encodeFrame_length (f : Frame) (h : f.WF) :
    (encodeFrame f).length = 24 + f.payload.length := by
  obtain ⟨_, _, _, _, hc, _⟩ := h
  simp only [encodeFrame, List.length_append, le16_length, le32_length, hc]; omega

theorem takeFrame_encode (f : Frame) (h : f.WF) (rest : Bytes) :
    takeFrame (encodeFrame f ++ rest) = some (f, rest) := by
  obtain ⟨h1, h2, h3, h4, h5, h6⟩ := h
  unfold takeFrame encodeFrame
  simp only [List.append_assoc, splitN_append _ _ (le16_length _), splitN_append _ _ (le32_length _),
    splitN_append _ _ h5, leNat_le16 _ h2, splitN_append _ _ rfl,
    leNat_le16 _ h1, leNat_le32 _ h3, leNat_le32 _ h4, leNat_le32 _ h6]

theorem takeFrame_nil : takeFrame [] = none := rfl

theorem takeFrame_append {p r : Bytes} {g : Frame} (h : takeFrame p = some (g, r)) (x : Bytes) :
    takeFrame (p ++ x) = some (g, r ++ x) := by
  revert h
  fun_cases takeFrame p <;> intro h
  -- every split succeeds (part, remainder and equation of each of the seven): so it does with `x` behind
  case case8 c r1 e1 l r2 e2 s r3 e3 st r4 e4 cx r5 e5 o r6 e6 pl rest e7 =>
    cases h
    simp only [takeFrame, splitN_mono x e1, splitN_mono x e2, splitN_mono x e3, splitN_mono x e4,
      splitN_mono x e5, splitN_mono x e6, splitN_mono x e7]
  all_goals cases h -- a split fails: no frame

/-- **A strict prefix of a frame yields no frame**, whatever follows the frame on the wire. -/
theorem takeFrame_strict_prefix (f : Frame) (h : f.WF) (rest : Bytes) (k : Nat)
    (hk : k < (encodeFrame f).length) : takeFrame ((encodeFrame f ++ rest).take k) = none := by
  match hp : takeFrame ((encodeFrame f ++ rest).take k) with
  | none => rfl
  | some (g, r) =>
    -- with the cut-off bytes put back the parse is that of the whole frame, so `rest` is `r` followed by the
    -- cut-off bytes: but these are more than `rest` has
    have hm := takeFrame_append hp ((encodeFrame f ++ rest).drop k)
    rw [List.take_append_drop, takeFrame_encode f h rest] at hm
    have hl := congrArg (fun x => x.2.length) (Option.some.inj hm)
    simp only [List.length_append, List.length_drop] at hl
    omega

theorem finish_eq (c : Nat) : finish c c = .ok := by simp [finish]

theorem finish_lt {c q : Nat} (h : c < q) : finish c q = .error .incomplete := by
  simp only [finish, beq_iff_eq]; rw [if_neg (by omega)]

theorem synchronous_eq (P : Frame → Resp) (is : List Iss) (st : CSt) :
    synchronous P is st =
      ((harvestAll P is st).1, endOfH (harvestAll P is st).2.1, (harvestAll P is st).2.2) := by
  unfold synchronous; rcases harvestAll P is st with ⟨rs, e, s⟩; cases e <;> rfl

/-- the counters of `pipeline`: `c` requests paired, `q` issued, the rest outstanding -/
theorem count_cons {α : Type} {c q : Nat} {x : α} {xs : List α} (h : c + (x :: xs).length = q) :
    c + 1 + xs.length = q ∧ c < q := by
  rw [List.length_cons] at h; omega

theorem drain_eq (P : Frame → Resp) (is : List Iss) (st : CSt) (c q : Nat) (h : c + is.length = q) :
    drain P is st c q = synchronous P is st := by
  -- nothing in flight, then the three outcomes of `harvestNext`: yield, stop, raise
  fun_induction drain P is st c q
  case case1 => subst h; rw [List.length_nil, Nat.add_zero, finish_eq]; rfl
  case case2 i is st c q r st' hn rs e st'' hd ih =>
    rw [ih (count_cons h).1, synchronous_eq] at hd
    cases hd
    simp only [synchronous_eq, harvestAll, hn]
  case case3 i is st c q held st' hn =>
    simp only [synchronous_eq, harvestAll, hn, finish_lt (count_cons h).2]; rfl
  case case4 i is st c q e st' hn => simp only [synchronous_eq, harvestAll, hn]; rfl

theorem fill_eq (P : Frame → Resp) (depth : Nat) (rest inflight : List Iss) (st : CSt) (last : Int)
    (c q : Nat) (h : c + inflight.length = q) :
    fill P depth rest inflight st last c q = synchronous P (inflight ++ rest) st := by
  induction rest generalizing inflight st last c q with
  | nil => rw [fill, List.append_nil]; exact drain_eq P inflight st c q h
  | cons i rest ih =>
    have h' : c + (inflight ++ [i]).length = q + 1 := by
      rw [List.length_append, List.length_singleton, ← Nat.add_assoc, h]
    rw [fill, List.append_cons inflight i rest]
    split
    · -- harvest the oldest request in flight
      obtain ⟨hd, tl, hin⟩ : ∃ hd tl, inflight ++ [i] = hd :: tl := by cases inflight <;> exact ⟨_, _, rfl⟩
      rw [hin] at h' ⊢
      rw [List.cons_append]; simp only [synchronous_eq, harvestAll]
      cases harvestNext P hd st with
      | yield r st' => dsimp only; rw [ih tl st' hd.idx (c + 1) (q + 1) (count_cons h').1, synchronous_eq]
      | stop held st' => dsimp only; rw [finish_lt (count_cons h').2]; rfl
      | raise e st' => rfl
    · exact ih (inflight ++ [i]) st last c (q + 1) h'

/-- the result stream of `pipeline` does not depend on the depth: it is that of `synchronous` -/
theorem pipeline_eq (P : Frame → Resp) (depth index : Nat) (issued : List Iss) (st : CSt) :
    pipeline P depth index issued st = synchronous P issued st :=
  fill_eq P depth issued [] st _ 0 0 rfl

theorem harvestNext_yield {P : Frame → Resp} {i : Iss} {st st' : CSt} {r : Res}
    (h : harvestNext P i st = .yield r st') : r.iss = i ∧ Matches i (r.ctx, r.rpy) := by
  revert h
  fun_cases harvestNext P i st <;> intro h <;> cases h
  exact ⟨rfl, ‹_›⟩

/-- every record passed the assertion against its own request; the `n`-th record is for the `n`-th request; and
`harvest` ends for want of requests exactly when it yielded one record per request -/
theorem harvestAll_sound (P : Frame → Resp) (is : List Iss) (st : CSt) :
    (∀ r ∈ (harvestAll P is st).1, Matches r.iss (r.ctx, r.rpy)) ∧
    (harvestAll P is st).1.map (·.iss) = is.take (harvestAll P is st).1.length ∧
    ((harvestAll P is st).2.1 = .exhausted ↔ (harvestAll P is st).1.length = is.length) := by
  fun_induction harvestAll P is st
  case case2 i is st r st' hn rs e st'' hr ih => -- `harvestNext` yields `r`
    rw [hr] at ih
    obtain ⟨h1, h2, h3⟩ := ih
    obtain ⟨hi, hm⟩ := harvestNext_yield hn
    exact ⟨List.forall_mem_cons.mpr ⟨hi ▸ hm, h1⟩,
      by simp only [List.map_cons, List.length_cons, List.take_succ_cons, hi, h2], by simpa using h3⟩
  all_goals simp -- no request, or `harvestNext` stops or raises: no record

/-- behind the data blocks there is no data block -/
theorem afterData_after (evs : List Ev) :
    joinData (afterData evs) = [] ∧ afterData (afterData evs) = afterData evs := by
  induction evs with
  | nil => exact ⟨rfl, rfl⟩
  | cons ev evs ih =>
    cases ev with
    | data bs => exact ih
    | _ => exact ⟨rfl, rfl⟩

/-- all input that will arrive before the next EOF / silence, put in the buffer at once -/
def flat (st : CSt) : CSt :=
  { pend := st.pend, buf := st.buf ++ joinData st.evs, evs := afterData st.evs }

theorem flat_idem (st : CSt) : flat (flat st) = flat st := by
  simp [flat, afterData_after]

theorem await_nodata (b : Bytes) (evs : List Ev) (f : Frame) (rest : Bytes)
    (h : takeFrame b = some (f, rest)) : await b evs = (.frame f, rest, evs) := by
  cases evs <;> simp only [await, h]

theorem await_data_nil (bs : Bytes) (evs : List Ev) : await [] (.data bs :: evs) = await bs evs := rfl

/-- `await` with all the data blocks already in the buffer: the very same result, unless a frame is complete
before the last block, when the blocks not yet read are still among the events instead of behind the frame. -/
theorem await_flat (b : Bytes) (evs : List Ev) :
    await b evs = await (b ++ joinData evs) (afterData evs) ∨
    ∃ f rest evs', await b evs = (.frame f, rest, evs') ∧
      await (b ++ joinData evs) (afterData evs) = (.frame f, rest ++ joinData evs', afterData evs') := by
  induction evs generalizing b with
  | nil => exact .inl (by simp [joinData, afterData])
  | cons ev evs ih =>
    cases htf : takeFrame b with
    | some fr =>
      exact .inr ⟨fr.1, fr.2, ev :: evs, await_nodata _ _ _ _ htf, await_nodata _ _ _ _ (takeFrame_append htf _)⟩
    | none =>
      cases ev with
      | data bs =>
        have := ih (b ++ bs)
        simp only [await, htf, joinData, afterData]
        rwa [← List.append_assoc]
      | _ => exact .inl (by simp [joinData, afterData])

/-- an outcome of `collect`, with the state it leaves flattened -/
def CNext.flat : CNext → CNext
  | .item c s => .item c (ClientRx.flat s)
  | .done h s => .done h (ClientRx.flat s)
  | .raise e s => .raise e (ClientRx.flat s)

theorem collectNext_flat (P : Frame → Resp) (st : CSt) :
    (collectNext P (flat st)).flat = (collectNext P st).flat := by
  obtain ⟨buf, evs, pend⟩ := st
  cases pend with
  | cons c cs => simp [collectNext, flat, CNext.flat, afterData_after]
  | nil =>
    simp only [collectNext, flat]
    rcases await_flat buf evs with h | ⟨f, rest, evs', h1, h2⟩
    · rw [h]
    · rw [h1, h2]
      dsimp only
      rcases P f with ⟨ctx, _ | ⟨r, rs⟩⟩ | e <;> simp [CNext.flat, flat, afterData_after]

/-- what `harvest` yields and how it ends depends only on the bytes before each EOF / silence, not on their blocks -/
theorem harvestAll_congr (P : Frame → Resp) (is : List Iss) (st st' : CSt) (h : flat st = flat st') :
    (harvestAll P is st).1 = (harvestAll P is st').1 ∧ (harvestAll P is st).2.1 = (harvestAll P is st').2.1 := by
  induction is generalizing st st' with
  | nil => exact ⟨rfl, rfl⟩
  | cons i is ih =>
    have hc : (collectNext P st).flat = (collectNext P st').flat := by
      rw [← collectNext_flat, h, collectNext_flat]
    unfold harvestAll harvestNext
    -- `CNext.flat` keeps the constructor: the six mixed cases go, in the others the payloads agree
    cases h1 : collectNext P st <;> cases h2 : collectNext P st' <;> rw [h1, h2] at hc <;>
      injection hc
    · rename_i hc hf -- both yield a record
      subst hc
      obtain ⟨e1, e2⟩ := ih _ _ hf
      by_cases hm : Matches i ‹Col› <;> simp only [hm, if_true, if_false, e1, e2, and_self]
    · rename_i hc _; subst hc; exact ⟨rfl, rfl⟩
    · rename_i hc _; subst hc; exact ⟨rfl, rfl⟩

/-- from `st`, `collect` yields the records `cs` and then returns (`stopped`) or raises -/
inductive Collects (P : Frame → Resp) : CSt → List Col → HEnd → Prop
  | item {st st' c cs e} : collectNext P st = .item c st' → Collects P st' cs e → Collects P st (c :: cs) e
  | done {st st' held} : collectNext P st = .done held st' → Collects P st [] (.stopped held)
  | raise {st st' err} : collectNext P st = .raise err st' → Collects P st [] (.raised err)

theorem harvestAll_of_collects {P : Frame → Resp} {st : CSt} {cs : List Col} {e : HEnd}
    (h : Collects P st cs e) (is : List Iss) :
    (harvestAll P is st).1 = (zipSpec is cs e).1 ∧ (harvestAll P is st).2.1 = (zipSpec is cs e).2 := by
  induction is generalizing st cs with
  | nil => exact ⟨rfl, rfl⟩
  | cons i is ih =>
    unfold harvestAll harvestNext
    cases h with
    | @item _ st' c cs _ hc h' =>
      obtain ⟨h1, h2⟩ := ih h'
      rw [hc]
      by_cases hm : Matches i c <;> simp only [zipSpec, hm, if_true, if_false, h1, h2, mkRes, and_self]
    | done hc => rw [hc]; exact ⟨rfl, rfl⟩
    | raise hc => rw [hc]; exact ⟨rfl, rfl⟩

theorem Collects.pend {P : Frame → Resp} {buf : Bytes} {evs : List Ev} {cs : List Col} {e : HEnd}
    (h : Collects P ⟨buf, evs, []⟩ cs e) (pend : List Col) : Collects P ⟨buf, evs, pend⟩ (pend ++ cs) e := by
  induction pend with
  | nil => exact h
  | cons c cs' ih => exact .item rfl ih

theorem hasReplies_iff {x : Resp} : hasReplies x = true ↔ ∃ ctx r rs, x = .replies ctx (r :: rs) := by
  cases x with
  | replies ctx rs => cases rs <;> simp [hasReplies]
  | error e => simp [hasReplies]

theorem stream_cons (f : Frame) (fs : List Frame) : stream (f :: fs) = encodeFrame f ++ stream fs :=
  List.flatMap_cons ..

theorem stream_length_cons (f : Frame) (fs : List Frame) :
    (stream (f :: fs)).length = (encodeFrame f).length + (stream fs).length := by
  rw [stream_cons, List.length_append]

theorem await_cut_whole {f : Frame} (hf : f.WF) (fs : List Frame) {k : Nat} (hk : (encodeFrame f).length ≤ k)
    (evs : List Ev) :
    await ((stream (f :: fs)).take k) evs = (.frame f, (stream fs).take (k - (encodeFrame f).length), evs) := by
  rw [stream_cons, List.take_append, List.take_of_length_le hk]
  exact await_nodata _ _ f _ (takeFrame_encode f hf _)

theorem take_stream_lt {f : Frame} (hf : f.WF) (fs : List Frame) {k : Nat} (hk : k < (encodeFrame f).length) :
    takeFrame ((stream (f :: fs)).take k) = none ∧ ((stream (f :: fs)).take k).length = k := by
  rw [stream_cons]
  exact ⟨takeFrame_strict_prefix f hf _ k hk, List.length_take_of_le (by rw [List.length_append]; omega)⟩

theorem await_none {b : Bytes} (h : takeFrame b = none) (closed : Bool) :
    await b [termEv closed] =
      (if closed then (if b.length = 0 then .stop else .rxerror) else .timeout, b, if closed then [.eof] else []) := by
  cases closed
  · simp only [await, termEv, h]; rfl
  · cases b <;> simp [await, termEv, h]

theorem collects_none (P : Frame → Resp) {b : Bytes} {k : Nat} (h : takeFrame b = none) (closed : Bool)
    (hb : b.length = k) : Collects P ⟨b, [termEv closed], []⟩ [] (cutEnd closed k) := by
  subst hb
  cases b with
  | nil => cases closed <;> exact .done rfl
  | cons x xs =>
    have ha := await_none h closed
    cases closed
    · exact .done (held := true) (by simp only [collectNext, ha]; rfl)
    · exact .raise (by simp only [collectNext, ha]; rfl)

/-- `collect` on a reply stream cut at offset `k`: the replies of the frames wholly inside the first `k` bytes -/
theorem collects_cut (P : Frame → Resp) (closed : Bool) (fs : List Frame) (hs : Served P fs) (k : Nat) :
    Collects P ⟨(stream fs).take k, [termEv closed], []⟩
      ((fs.take (whole k fs)).flatMap (colsOf P)) (cutEnd closed (leftover k fs)) := by
  induction fs generalizing k with
  | nil => rw [stream, List.flatMap_nil, List.take_nil]; exact collects_none P takeFrame_nil closed rfl
  | cons f fs ih =>
    obtain ⟨⟨hwf, hrep⟩, hs'⟩ := List.forall_mem_cons.mp hs
    obtain ⟨ctx, r, rs, hP⟩ := hasReplies_iff.mp hrep
    by_cases hk : (encodeFrame f).length ≤ k
    · -- the frame is wholly inside the cut
      have := (ih hs' (k - (encodeFrame f).length)).pend (rs.map fun x => (ctx, x))
      simp only [whole, leftover, if_pos hk, List.take_succ_cons, List.flatMap_cons, colsOf, hP]
      exact .item (by simp only [collectNext, await_cut_whole hwf fs hk, hP]) this
    · -- the cut falls inside this frame
      obtain ⟨htf, hlen⟩ := take_stream_lt hwf fs (Nat.lt_of_not_le hk)
      simp only [whole, leftover, if_neg hk, List.take_zero, List.flatMap_nil]
      exact collects_none P htf closed hlen

theorem AllMatch_cons {i : Iss} {is : List Iss} {c : Col} {cs : List Col} :
    AllMatch (i :: is) (c :: cs) ↔ Matches i c ∧ AllMatch is cs :=
  List.forall_mem_cons

theorem zipSpec_allMatch (is : List Iss) (cs : List Col) (e : HEnd) (h : AllMatch is cs) :
    zipSpec is cs e = ((is.zip cs).map mkRes, if is.length ≤ cs.length then .exhausted else e) := by
  induction is generalizing cs with
  | nil => simp [zipSpec]
  | cons i is ih =>
    cases cs with
    | nil => simp [zipSpec]
    | cons c cs => obtain ⟨hm, h'⟩ := AllMatch_cons.mp h; simp [zipSpec, hm, ih cs h']

/-- requests answered one by one are paired, and the zip goes on behind them -/
theorem zipSpec_append (is₁ : List Iss) (cs₁ : List Col) (is : List Iss) (cs : List Col) (e : HEnd)
    (h : AllMatch is₁ cs₁) (hl : is₁.length = cs₁.length) :
    zipSpec (is₁ ++ is) (cs₁ ++ cs) e = ((is₁.zip cs₁).map mkRes ++ (zipSpec is cs e).1, (zipSpec is cs e).2) := by
  induction is₁ generalizing cs₁ with
  | nil =>
    cases cs₁ with
    | nil => rfl
    | cons _ _ => cases hl
  | cons j js ih =>
    cases cs₁ with
    | nil => cases hl
    | cons d ds => obtain ⟨hm, h'⟩ := AllMatch_cons.mp h; simp [zipSpec, hm, ih ds h' (Nat.succ.inj hl)]

theorem AllMatch_prefix {is : List Iss} {a b : List Col} (h : AllMatch is (a ++ b)) : AllMatch is a := by
  induction is generalizing a with
  | nil => exact nofun
  | cons i is ih =>
    cases a with
    | nil => exact nofun
    | cons x a => rw [List.cons_append, AllMatch_cons] at h; exact AllMatch_cons.mpr ⟨h.1, ih h.2⟩

theorem endOfH_cutEnd (closed : Bool) (left : Nat) : endOfH (cutEnd closed left) = .error (cutErr closed left) := by
  unfold cutEnd cutErr
  by_cases h : left = 0 <;> simp only [h, if_true, if_false] <;> cases closed <;> rfl

theorem cut_total (fs : List Frame) (k : Nat) (h : (stream fs).length ≤ k) :
    whole k fs = fs.length ∧ leftover k fs = 0 := by
  induction fs generalizing k with
  | nil => exact ⟨rfl, rfl⟩
  | cons f fs ih =>
    rw [stream_length_cons] at h
    obtain ⟨hw, hl⟩ := ih _ (Nat.le_sub_of_add_le' h)
    have hk : (encodeFrame f).length ≤ k := Nat.le_trans (Nat.le_add_right ..) h
    rw [whole, leftover, if_pos hk, if_pos hk, hw, hl]
    exact ⟨rfl, rfl⟩

/-- Registering on a connection that delivers the first `k` bytes of `reg :: fs` (all at once): it fails
when the cut is inside the Register reply, and otherwise leaves the rest of the prefix to the operations. -/
theorem connect_cut (reg : Frame) (fs : List Frame) (k : Nat) (closed : Bool) (hr : IsRegister reg) :
    connect [.data ((stream (reg :: fs)).take k), termEv closed] =
      if (encodeFrame reg).length ≤ k then .ok (cutState fs (k - (encodeFrame reg).length) closed)
      else .error (if k = 0 then (if closed then .noenip else .noresponse)
                   else (if closed then .rxerror else .partialHeld)) := by
  obtain ⟨hwf, hst, hcmd⟩ := hr
  unfold connect
  rw [await_data_nil]
  by_cases hk : (encodeFrame reg).length ≤ k
  · rw [await_cut_whole hwf fs hk, if_pos hk]; simp [hst, hcmd, cutState]
  · obtain ⟨htf, hlen⟩ := take_stream_lt hwf fs (Nat.lt_of_not_le hk)
    rw [await_none htf, if_neg hk, hlen]
    cases closed
    · simp only [Bool.false_eq_true, if_false, List.isEmpty_iff_length_eq_zero, hlen]; split <;> rfl
    · by_cases hk0 : k = 0 <;> simp [hk0]

/-- The List Identity exchange of `open_gateway` when the first `k` bytes of `idf :: fs` are (still) to come:
it fails for every cut inside the List Identity reply, and otherwise leaves the rest to the operations. -/
theorem identify_cut (idf : Frame) (fs : List Frame) (k : Nat) (closed : Bool) (hi : IsIdentity idf) :
    identify (cutState (idf :: fs) k closed) =
      if (encodeFrame idf).length ≤ k then .ok (cutState fs (k - (encodeFrame idf).length) closed)
      else .error (if closed ∧ k ≠ 0 then .rxerror else .noidentity) := by
  obtain ⟨hwf, hst, hcmd⟩ := hi
  unfold identify cutState
  dsimp only
  by_cases hk : (encodeFrame idf).length ≤ k
  · rw [await_cut_whole hwf fs hk, if_pos hk]; simp [hst, hcmd]
  · obtain ⟨htf, hlen⟩ := take_stream_lt hwf fs (Nat.lt_of_not_le hk)
    rw [await_none htf, if_neg hk, hlen]
    cases closed <;> by_cases hk0 : k = 0 <;> simp [hk0]

/-- **`open_gateway` on a reply stream cut at offset `k`** (proxy without `identity_default`): it fails — and no
gateway is kept — for every cut inside the Register reply or inside the List Identity reply. -/
theorem open_cut (reg idf : Frame) (fs : List Frame) (k : Nat) (closed : Bool) (hr : IsRegister reg)
    (hi : IsIdentity idf) :
    openGateway true [.data ((stream (reg :: idf :: fs)).take k), termEv closed] =
      if (encodeFrame reg).length ≤ k then
        if (encodeFrame idf).length ≤ k - (encodeFrame reg).length then
          .ok { pend := [], buf := (stream fs).take (k - (encodeFrame reg).length - (encodeFrame idf).length),
                evs := [termEv closed] }
        else .error (.identify (if closed ∧ k - (encodeFrame reg).length ≠ 0 then .rxerror else .noidentity))
      else .error (.connect (if k = 0 then (if closed then .noenip else .noresponse)
                             else (if closed then .rxerror else .partialHeld))) := by
  unfold openGateway
  rw [connect_cut reg (idf :: fs) k closed hr]
  by_cases hk : (encodeFrame reg).length ≤ k <;> simp only [hk, if_true, if_false, identify_cut idf fs _ closed hi]
  by_cases hk2 : (encodeFrame idf).length ≤ k - (encodeFrame reg).length <;>
    simp only [hk2, if_true, if_false, cutState]

theorem open_cut_noident (reg : Frame) (fs : List Frame) (k : Nat) (closed : Bool) (hr : IsRegister reg) :
    openGateway false [.data ((stream (reg :: fs)).take k), termEv closed] =
      if (encodeFrame reg).length ≤ k then .ok (cutState fs (k - (encodeFrame reg).length) closed)
      else .error (.connect (if k = 0 then (if closed then .noenip else .noresponse)
                             else (if closed then .rxerror else .partialHeld))) := by
  unfold openGateway
  rw [connect_cut reg fs k closed hr]
  by_cases hk : (encodeFrame reg).length ≤ k <;> simp only [hk, if_true, if_false, Bool.false_eq_true]

theorem exchange_flat (P : Frame → Resp) (depth : Nat) (issued : List Iss) (evs : List Ev) :
    exchange P depth issued evs = exchange P depth issued (.data (joinData evs) :: afterData evs) := by
  unfold exchange connect
  rw [await_data_nil]
  rcases await_flat [] evs with h | ⟨f, rest, evs', h1, h2⟩
  · rw [h]; rfl
  · rw [h1, ← List.nil_append (joinData evs), h2]
    -- if the connector is created, the two states differ only in where the unread blocks are
    obtain ⟨e1, e2⟩ := harvestAll_congr P issued ⟨rest, evs', []⟩ ⟨rest ++ joinData evs', afterData evs', []⟩
      (flat_idem _).symm
    dsimp only
    by_cases hs : f.status ≠ 0
    · rw [if_pos hs, if_pos hs]
    rw [if_neg hs, if_neg hs]
    by_cases hc : f.cmd ≠ cmdRegister
    · rw [if_pos hc, if_pos hc]
    rw [if_neg hc, if_neg hc]
    simp only [pipeline_eq, synchronous_eq, e1, e2]

end Cpppo.ClientRx
