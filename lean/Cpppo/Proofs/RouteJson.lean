import Cpppo.Proofs.Route
/-! `json.loads` on the JSON spellings of a route path.  `Spells t v` says that the scanner reads the text `t`
as the value `v`; it holds of a printed integer and a printed string, and of a printed array or object when it
holds of the parts.  The spellings of route paths are such texts. -/
namespace Cpppo.Route

/-- a character that ends a JSON number without making it a float -/
def numEnd (c : Nat) : Prop := isDigit c = false ∧ c ≠ 46 ∧ c ≠ 101 ∧ c ≠ 69

/-- `,` `/` `}` end a number, … -/
theorem numEnd_sep : ∀ c ∈ [44, 47, 125], numEnd c := by unfold numEnd; decide
/-- … and so does `]` -/
theorem numEnd_93 : numEnd 93 := by simp [numEnd, isDigit]

/-- what follows a value cannot continue a number -/
def Stop : Text → Prop
  | [] => True
  | c :: _ => numEnd c

theorem takeDigits_append : ∀ (ds rest : Text), (∀ d ∈ ds, isDigit d = true) → Stop rest →
    takeDigits (ds ++ rest) = (ds, rest)
  | [], [], _, _ => rfl
  | [], c :: rest, _, hc => by simp [takeDigits, hc.1]
  | d :: ds, rest, hd, hc => by
    simp [takeDigits, hd d List.mem_cons_self,
      takeDigits_append ds rest (fun x hx => hd x (List.mem_cons_of_mem _ hx)) hc]

/-- `0|[1-9]\d*`: a rendered number has no leading zero, so the integer part is all of it; what follows starts
neither a fraction nor an exponent -/
theorem pUnsigned_renderNat (neg : Bool) (n : Nat) (rest : Text) (hr : Stop rest) :
    pUnsigned neg (renderNat n ++ rest) = some (.int (if neg then - Int.ofNat n else Int.ofNat n), rest) := by
  -- what follows is neither `.` nor `e`/`E`
  have hf : pFrac rest = (false, rest) := by
    fun_cases pFrac rest with
    | case2 => exact absurd rfl hr.2.1  -- `.` and digits follow
    | _ => rfl
  have hx : pExp rest = (false, rest) := by
    fun_cases pExp rest with
    | case2 c r h => simp [hr.2.2] at h  -- `e`/`E` and digits follow
    | _ => rfl
  have htail : ∀ t, pNumTail neg t rest
      = (.int (if neg then - Int.ofNat (decVal t) else Int.ofNat (decVal t)), rest) := fun t => by
    simp [pNumTail, hf, hx]
  by_cases hn : n = 0
  · subst hn
    simp [show renderNat 0 = [48] from rfl, pUnsigned, htail, decVal]
  · obtain ⟨_, d, ds, he, h0⟩ := natDigits_spec (n + 1) n (by omega)
    have hd := renderNat_digits n
    have htd := takeDigits_append _ rest hd hr
    have hv := decVal_renderNat n
    unfold renderNat at hd htd hv ⊢
    rw [he] at hd htd hv ⊢
    have := isDigit_iff.mp (hd d List.mem_cons_self)
    have h48 : d ≠ 48 := fun e => hn (h0 e)
    have h49 : (decide (49 ≤ d) && decide (d ≤ 57)) = true := by simp; omega
    rw [List.cons_append] at htd ⊢
    simp [pUnsigned, h48, h49, htd, htail, hv]

/-- no literal starts with a digit, or with `-` and a digit: a printed integer is scanned as a number -/
theorem pScalar_renderInt (n : Int) (rest : Text) (hr : Stop rest) :
    pScalar (renderInt n ++ rest) = some (.int n, rest) := by
  have hne : ∀ {d : Nat} (a : Nat), isDigit d = true → a < 48 ∨ 57 < a → (a == d) = false := fun a hd ha => by
    have := isDigit_iff.mp hd
    simp; omega
  cases n with
  | ofNat n =>
    obtain ⟨d, ds, he, hd⟩ := renderNat_head n
    have h45 : d ≠ 45 := by have := isDigit_iff.mp hd; omega
    have hnum := pUnsigned_renderNat false n rest hr
    simp only [renderInt]
    rw [he] at hnum ⊢
    simpa [pScalar, pLiteral, startsWith, pNumber, hne _ hd, h45] using hnum
  | negSucc n =>
    obtain ⟨d, ds, he, hd⟩ := renderNat_head (n + 1)
    have hlit : pLiteral (renderInt (.negSucc n) ++ rest) = none := by
      simp [renderInt, he, pLiteral, startsWith, hne _ hd]
    rw [pScalar, hlit]
    exact pUnsigned_renderNat true (n + 1) rest hr

theorem skipWs_nonws {c : Nat} {cs : Text} (h : isWs c = false) : skipWs (c :: cs) = c :: cs := by
  simp [skipWs, h]

/-- a string body the model's scanner reads: no quote, no backslash, no control character -/
def StrBody (s : Text) : Prop := ∀ x ∈ s, 32 ≤ x ∧ x ≠ 34 ∧ x ≠ 92

theorem pString_lit : ∀ (s rest : Text), StrBody s → pString (s ++ 34 :: rest) = some (s, rest)
  | [], rest, _ => by simp [pString]
  | x :: xs, rest, h => by
    obtain ⟨h1, h2, h3⟩ := h x List.mem_cons_self
    have c : ¬ x < 32 := by omega
    simp [pString, h2, h3, c, pString_lit xs rest (fun y hy => h y (List.mem_cons_of_mem _ hy))]

/-- `t` is a compact JSON text of `v`: it starts with the first character of a value (not `]`: after `[` the scanner
first looks for an empty array), and the scanner, given fuel for its length, reads it as `v` in front of anything that
cannot continue a number -/
structure Spells (t : Text) (v : JV) : Prop where
  head : ∃ c cs, t = c :: cs ∧ isWs c = false ∧ c ≠ 93
  scan : ∀ f rest, t.length ≤ f → Stop rest → pValue f (t ++ rest) = some (v, rest)

/-- the shape of every proof below: the text has a first character, so there is a unit of fuel to spend on it -/
theorem Spells.of_head {t : Text} {v : JV} (c : Nat) (cs : Text) (ht : t = c :: cs) (hw : isWs c = false)
    (h93 : c ≠ 93)
    (h : ∀ g rest, t.length ≤ g + 1 → Stop rest → pValue (g + 1) (c :: (cs ++ rest)) = some (v, rest)) :
    Spells t v := by
  subst ht
  refine ⟨⟨c, cs, rfl, hw, h93⟩, fun f rest hf hr => ?_⟩
  obtain ⟨g, rfl⟩ : ∃ g, f = g + 1 := ⟨f - 1, by simp at hf; omega⟩
  exact h g rest hf hr

theorem jsonLoads_of_spells {t : Text} {v : JV} (h : Spells t v) : jsonLoads t = some v := by
  have := h.scan (2 * t.length + 2) [] (by omega) trivial
  rw [List.append_nil] at this
  simp [jsonLoads, this, skipWs]

theorem spells_int (n : Int) : Spells (renderInt n) (.int n) := by
  obtain ⟨c, cs, he, hc⟩ := renderInt_head n
  have hc' : c ≠ 93 ∧ c ≠ 32 ∧ c ≠ 9 ∧ c ≠ 10 ∧ c ≠ 13 ∧ c ≠ 34 ∧ c ≠ 91 ∧ c ≠ 123 := by omega
  refine .of_head c cs he (by simp [isWs, hc']) hc'.1 fun g rest _ hr => ?_
  -- the first character sends `pValue` to `pScalar`
  have hs : pValue (g + 1) (c :: (cs ++ rest)) = pScalar (c :: (cs ++ rest)) := by
    rw [pValue]
    simp [skipWs, isWs, hc']
  rw [hs, ← List.cons_append, ← he, pScalar_renderInt n rest hr]

/-- `json.loads("<integer>/…")` raises ("Extra data") -/
theorem jsonLoads_number_slash (n : Int) (rest : Text) : jsonLoads (renderInt n ++ 47 :: rest) = none := by
  have := (spells_int n).scan (2 * (renderInt n ++ 47 :: rest).length + 2) (47 :: rest) (by simp; omega)
    (numEnd_sep 47 (by decide))
  rw [jsonLoads, this]
  simp [skipWs, isWs]

theorem spells_str {s : Text} (h : StrBody s) : Spells (34 :: s ++ [34]) (.str s) :=
  .of_head 34 _ rfl (by decide) (by decide) fun g rest _ _ => by
    rw [pValue, skipWs_nonws (by decide)]
    simp [pString_lit s rest h]

/-- the elements of a printed array; a unit of fuel goes with each, which is at least two characters with its
separator -/
theorem pElems_map {α : Type} (txt : α → Text) (val : α → JV) : ∀ (x : α) (xs : List α),
    (∀ y ∈ x :: xs, Spells (txt y) (val y)) → ∀ f rest, (joinWith 44 ((x :: xs).map txt)).length + 1 ≤ f →
    pElems f (joinWith 44 ((x :: xs).map txt) ++ 93 :: rest) = some (.list ((x :: xs).map val), rest)
  | x, [], h, f + 1, rest, hf => by
    have he := (h x List.mem_cons_self).scan f (93 :: rest) (Nat.le_of_succ_le_succ hf) numEnd_93
    rw [List.map_cons, List.map_nil, joinWith, pElems, he]
    simp [skipWs, isWs]
  | x, y :: ys, h, f + 1, rest, hf => by
    have hx := h x List.mem_cons_self
    have : 0 < (txt x).length := by obtain ⟨c, cs, hc, _⟩ := hx.head; simp [hc]
    have hm := pElems_map txt val y ys (fun z hz => h z (List.mem_cons_of_mem _ hz)) f rest
    simp only [List.map_cons, joinWith, List.length_append, List.length_cons] at hf hm
    rw [List.map_cons, List.map_cons, joinWith, List.append_assoc, List.cons_append, pElems,
      hx.scan f (44 :: _) (by omega) (numEnd_sep 44 (by decide))]
    simp [skipWs, isWs, hm (by omega)]

theorem spells_list {α : Type} (txt : α → Text) (val : α → JV) (xs : List α) (hne : xs ≠ [])
    (h : ∀ x ∈ xs, Spells (txt x) (val x)) : Spells (renderJsonList (xs.map txt)) (.list (xs.map val)) := by
  obtain ⟨x, ys, rfl⟩ := List.exists_cons_of_ne_nil hne
  refine .of_head 91 (joinWith 44 ((x :: ys).map txt) ++ [93]) rfl (by decide) (by decide) fun g rest hf _ => ?_
  simp only [renderJsonList, List.length_cons, List.length_append, List.length_nil] at hf
  have hel := pElems_map txt val x ys h g rest (by omega)
  -- the array is not empty: what follows the bracket is the first element's first character
  obtain ⟨c, cs, hc, hw, h93⟩ := (h x List.mem_cons_self).head
  rw [List.map_cons, hc, joinWith_cons_head, List.cons_append] at hel
  rw [List.map_cons, hc, joinWith_cons_head, pValue, skipWs_nonws (by decide)]
  simp [skipWs_nonws hw, h93, hel]

/-- `{"port":p,"link":l}` is scanned as the dict `port_link` would return -/
theorem spells_segDict (s : Seg) (hs : s.WF) : Spells (renderSegDict s) (segJV s) := by
  obtain ⟨p, l, rfl, _, hl⟩ := hs.eq_pl
  refine .of_head 123 _ rfl (by decide) (by decide) fun f rest hf _ => ?_
  have e : renderSegDict (.pl p l) ++ rest = 123 :: 34 :: (kPort ++ 34 :: 58 :: (renderInt p ++ 44 :: 34 ::
      (kLink ++ 34 :: 58 :: (renderLinkJson l ++ 125 :: rest)))) := by
    simp only [renderSegDict, List.append_assoc]
    rfl
  have hlen : (renderInt p).length + (renderLinkJson l).length + 2 ≤ f := by
    simp only [renderSegDict, List.length_append, List.length_cons, List.length_nil] at hf
    omega
  obtain ⟨g, rfl⟩ : ∃ g, f = g + 2 := ⟨f - 2, by omega⟩
  show pValue (g + 3) (renderSegDict (.pl p l) ++ rest) = _
  have hp := (spells_int p).scan (g + 1) (44 :: 34 :: (kLink ++ 34 :: 58 :: (renderLinkJson l ++ 125 :: rest)))
    (by omega) (numEnd_sep 44 (by decide))
  have hlink : Spells (renderLinkJson l) (linkJV l) := by
    cases l with
    | num n => exact spells_int n
    | addr t => exact spells_str fun x hx => by have := renderLink_chars (.addr t) hl x hx; omega
  have hl := hlink.scan g (125 :: rest) (by omega) (numEnd_sep 125 (by decide))
  have hk : StrBody kPort ∧ StrBody kLink := by unfold StrBody; decide
  -- two members: `pMembers` reads a key, a colon, a value, and goes on after a comma
  rw [e, pValue, skipWs_nonws (by decide)]
  simp [pMembers, skipWs, isWs, pString_lit kPort _ hk.1, pString_lit kLink _ hk.2, hp, hl, segJV]

theorem parseRoutePath_of_list {t : Text} {vs : List JV} {segs : List Seg} (ht : Spells t (.list vs))
    (h2 : stage2 vs = (segs, [])) : parseRoutePath t = some segs := by
  -- `finish` answers an empty list without the second stage, which would say the same
  have hf : finish vs = .ok segs [] := by
    cases vs with
    | nil => cases h2; rfl
    | cons v vs => simp [finish, h2]
  simp [parseRoutePath, parseRoute, jsonLoads_of_spells ht, hf]

/-- between the quotes of the `"p/l"` spelling stands the '/'-spelling of the one segment -/
theorem spells_segStr (s : Seg) (hs : s.WF) : Spells (renderSegStr s) (.str (joinWith 47 (segParts s))) := by
  obtain ⟨p, l, rfl, _, hl⟩ := hs.eq_pl
  have e : renderSegStr (.pl p l) = 34 :: joinWith 47 (segParts (.pl p l)) ++ [34] := by
    simp [renderSegStr, segParts, joinWith]
  rw [e]
  -- digits, `-`, `.` and `/`: nothing a JSON string has to escape
  refine spells_str fun x hx => ?_
  rcases List.mem_append.mp hx with hx | hx
  · have := renderInt_chars p x hx; omega
  · rcases List.mem_cons.mp hx with rfl | hx
    · omega
    · have := renderLink_chars l hl x hx; omega

theorem stage2_strs (segs : List Seg) (h : ∀ s ∈ segs, s.WF) :
    stage2 (segs.map fun s => .str (joinWith 47 (segParts s))) = (segs, []) :=
  stage2_map _ segs fun s hs => by
    obtain ⟨p, l, rfl, hp, hl⟩ := (h s hs).eq_pl
    obtain ⟨c, cs, hc, _⟩ := renderInt_head p
    -- `port_link` splits at the first '/' and strips both halves, which removes nothing
    have hst : ∀ t : Text, (∀ x ∈ t, 45 ≤ x ∧ x ≤ 57 ∧ x ≠ 47) → strip t = t := fun t ht =>
      stripBy_id fun x hx => (not_space (by have := ht x hx; omega)).1
    have hsl : 47 ∉ renderInt p := fun h => (renderInt_chars p 47 h).2.2 rfl
    exact ⟨by simp [truthy, segParts, joinWith, hc], by
      simp [portLink, segParts, joinWith, splitFirst_append 47 _ _ hsl, hst _ (renderInt_chars p),
        hst _ (renderLink_chars l hl), plPair_render p l hp hl]⟩

end Cpppo.Route
