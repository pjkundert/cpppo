import Cpppo.Proofs.ClientIssue
import Cpppo.Proofs.PyText
/-!
Lemmas about `pipeline` / `synchronous` (property C12).  `pull_spec` says what one `next( issuer )` yields and
leaves to come; `Inv` is the invariant of the `while issuer or inflight` loop, `finalOut` the sequence the loop
is bound to end with.  Whatever the depth, that sequence is the zip of the issued items with the replies of the
in-order device (`pipeline_spec`, `synchronous_spec`).  `ctxEq_of_lt` is where the bound 10^8 comes from.
-/
namespace Cpppo.Client

variable {α σ ρ : Type}

def tagged (i : Nat) (rs : List ρ) : List (Nat × ρ) := rs.map fun r => (i, r)

/-- the replies of the device to the packets not yet sent, tagged with the packet index -/
def future (step : σ → α → σ × ρ) : σ → List (Packet α) → List (Nat × ρ)
  | _, [] => []
  | s, p :: ps =>
    tagged p.index (runMembers step s p.members).2 ++ future step (runMembers step s p.members).1 ps

def itemEvents (its : List (Nat × α)) : List (Event α) := its.map fun it => Event.item it.1 it.2

/-- what harvest yields for an issued item and the reply zipped with it: the item's index, the reply's body -/
def mk (it : Nat × α) (rp : Nat × ρ) : Nat × ρ := (it.1, rp.2)

theorem runMembers_length (step : σ → α → σ × ρ) (s : σ) (as : List α) :
    (runMembers step s as).2.length = as.length := by
  induction as generalizing s with
  | nil => rfl
  | cons a as ih => simp [runMembers, ih]

theorem runMembers_append (step : σ → α → σ × ρ) (s : σ) (as bs : List α) :
    runMembers step s (as ++ bs) =
      ((runMembers step (runMembers step s as).1 bs).1,
       (runMembers step s as).2 ++ (runMembers step (runMembers step s as).1 bs).2) := by
  induction as generalizing s with
  | nil => simp [runMembers]
  | cons a as ih => simp [runMembers, ih]

theorem future_bodies (step : σ → α → σ × ρ) (s : σ) (ps : List (Packet α)) :
    (future step s ps).map Prod.snd = (runMembers step s (flatMembers ps)).2 := by
  induction ps generalizing s with
  | nil => rfl
  | cons p ps ih =>
    simp only [future, flatMembers, List.flatMap_cons, List.map_append, runMembers_append]
    rw [ih]
    simp [tagged, flatMembers, Function.comp_def]

theorem future_length (step : σ → α → σ × ρ) (s : σ) (ps : List (Packet α)) :
    (future step s ps).length = (flatItems ps).length := by
  induction ps generalizing s with
  | nil => rfl
  | cons p ps ih =>
    simp [future, flatItems, tagged, runMembers_length, ih] at ih ⊢

theorem eventsOf_cons (p : Packet α) (ps : List (Packet α)) :
    eventsOf (p :: ps) = Event.send p :: itemEvents (p.members.map fun a => (p.index, a)) ++ eventsOf ps := by
  simp [eventsOf, packetEvents, itemEvents, Function.comp_def]

theorem pull_nil (step : σ → α → σ × ρ) (s : σ) (w : List (Nat × ρ)) :
    pull step ([] : List (Event α)) s w = none := rfl

/-- harvest pairs the indices of the items with the bodies of the replies -/
theorem zipWith_mk (its : List (Nat × α)) (rs : List (Nat × ρ)) :
    List.zipWith mk its rs = List.zip (its.map Prod.fst) (rs.map Prod.snd) := by
  rw [List.zip_map, List.map_zip_eq_zipWith]; rfl

theorem flatItems_snd (ps : List (Packet α)) : (flatItems ps).map Prod.snd = flatMembers ps := by
  induction ps with
  | nil => rfl
  | cons p ps ih =>
    simp only [flatItems, flatMembers, List.flatMap_cons, List.map_append] at ih ⊢
    rw [ih]
    simp [Function.comp_def]

/-- `str(index)` fits the 8-byte sender context below 10^8 -/
theorem ctxEq_of_lt (i : Nat) (h : i < 10 ^ 8) : ctxEq i i = true := by
  unfold ctxEq
  have hl : (Py.decimal i).length ≤ 8 := by
    unfold Py.decimal
    rw [List.length_map]
    exact Py.toDigits_length 10 (by omega) i 7 h
  rw [List.take_of_length_le hl]
  exact beq_self_eq_true _

variable (step : σ → α → σ × ρ)

/-- one pull with the items `its` of a sent packet pending and the packets `ps` unsent: the items and
replies still to come stay the same, and what goes on the wire is tagged like the new items -/
theorem pull_spec (its : List (Nat × α)) (ps : List (Packet α))
    (hne : ∀ p ∈ ps, p.members ≠ []) (s : σ) (w : List (Nat × ρ)) :
    (its = [] ∧ ps = [] ∧ pull step (itemEvents its ++ eventsOf ps) s w = none) ∨
    ∃ it its' ps' s' new,
      pull step (itemEvents its ++ eventsOf ps) s w
        = some (it, itemEvents its' ++ eventsOf ps', s', w ++ new)
      ∧ it :: (its' ++ flatItems ps') = its ++ flatItems ps
      ∧ new ++ future step s' ps' = future step s ps
      ∧ (it :: its').map Prod.fst = its.map Prod.fst ++ new.map Prod.fst
      ∧ its'.length + (eventsOf ps').length < its.length + (eventsOf ps).length
      ∧ ∀ p ∈ ps', p.members ≠ [] := by
  cases its with
  | cons it its' =>
    exact Or.inr ⟨it, its', ps, s, [], by simp [itemEvents, pull], rfl, rfl, by simp, by simp, hne⟩
  | nil =>
    cases ps with
    | nil => exact Or.inl ⟨rfl, rfl, rfl⟩
    | cons p ps' =>
      cases hm : p.members with
      | nil => exact absurd hm (hne p List.mem_cons_self)
      | cons a as =>
        refine Or.inr ⟨(p.index, a), as.map fun b => (p.index, b), ps', _, _,
          by simp [itemEvents, eventsOf_cons, pull, tagged, hm], by simp [flatItems, hm], rfl, ?_,
          by simp [eventsOf_cons, itemEvents, hm]; omega, fun q hq => hne q (List.mem_cons_of_mem _ hq)⟩
        -- the replies of the packet carry its index, one per member
        have hlen := runMembers_length step s p.members
        simp only [tagged, List.map_map, Function.comp_def, List.map_const', hlen, List.map_cons,
          List.map_nil, List.nil_append]
        rw [hm]; simp [List.replicate_succ]

/-- The loop invariant, with the issuer standing at the items `its` of a packet already sent and the packets `ps`
still to send.  `wire`: the replies on the wire answer, in order, exactly what is in flight or still to be
yielded from sent packets.  `cnt`: what `finish` compares.  `live`: a stopped issuer has nothing left.
`ok`: every index still to be compared fits the sender context. -/
structure Inv (st : PState α σ ρ) (its : List (Nat × α)) (ps : List (Packet α)) : Prop where
  ev : st.events = itemEvents its ++ eventsOf ps
  ne : ∀ p ∈ ps, p.members ≠ []
  wire : (st.inflight ++ its).map Prod.fst = st.wire.map Prod.fst
  harv : st.harv = true
  cnt : st.requests = st.complete + st.inflight.length
  live : st.live = true ∨ (its = [] ∧ ps = [])
  ok : ∀ it ∈ st.inflight ++ (its ++ flatItems ps), ctxEq it.1 it.1 = true

/-- what the loop ends with: the output so far, then everything pending zipped with the replies pending -/
def finalOut (step : σ → α → σ × ρ) (st : PState α σ ρ) (its : List (Nat × α))
    (ps : List (Packet α)) : List (Nat × ρ) :=
  st.out ++ List.zipWith mk (st.inflight ++ (its ++ flatItems ps)) (st.wire ++ future step st.srv ps)

/-- Iterations still needed: an event costs up to two (one to issue it, one to harvest its item), an item in
flight one, and one more to see the issuer stop.  `pipeFuel = 2 * events + 2` exceeds it at the start. -/
def meas (st : PState α σ ρ) (its : List (Nat × α)) (ps : List (Packet α)) : Nat :=
  2 * (its.length + (eventsOf ps).length) + st.inflight.length + (if st.live then 1 else 0)

theorem issueStep_dead {st : PState α σ ρ} (h : st.live = false) :
    issueStep step st = st := by
  rw [issueStep, h]; rfl

theorem finish_idle {st : PState α σ ρ} {its : List (Nat × α)}
    {ps : List (Packet α)} (inv : Inv st its ps) (hl : st.live = false) (hin : st.inflight = []) :
    finish st = (finalOut step st its ps, Outcome.ok) := by
  obtain ⟨rfl, rfl⟩ : its = [] ∧ ps = [] := inv.live.resolve_left (by simp [hl])
  have hw : st.wire = [] := by
    have := inv.wire
    rw [hin] at this
    simpa using this.symm
  have hc := inv.cnt
  rw [hin] at hc
  simp [finish, finalOut, hin, hw, flatItems, future, hc]

/-- Issuing never raises `meas`, and lowers it when the issuer is live afterwards (then an item was issued). -/
theorem issueStep_inv (st : PState α σ ρ) (its : List (Nat × α))
    (ps : List (Packet α)) (inv : Inv st its ps) :
    ∃ its1 ps1, Inv (issueStep step st) its1 ps1
      ∧ finalOut step (issueStep step st) its1 ps1 = finalOut step st its ps
      ∧ meas (issueStep step st) its1 ps1 ≤ meas st its ps
      ∧ ((issueStep step st).live = true → meas (issueStep step st) its1 ps1 < meas st its ps)
      ∧ ((issueStep step st).inflight = [] → (issueStep step st).live = false) := by
  cases hl : st.live with
  | false =>
    rw [issueStep_dead step hl]
    exact ⟨its, ps, inv, rfl, Nat.le_refl _, by simp [hl], fun _ => hl⟩
  | true =>
    rcases pull_spec step its ps inv.ne st.srv st.wire with
      ⟨rfl, rfl, hp⟩ | ⟨it, its', ps', s', new, hp, hitems, hfut, htag, hlt, hne'⟩
    · rw [← inv.ev] at hp
      rw [issueStep, if_pos hl, hp]
      exact ⟨[], [], ⟨inv.ev, inv.ne, inv.wire, inv.harv, inv.cnt, Or.inr ⟨rfl, rfl⟩, inv.ok⟩, rfl,
        by simp [meas], nofun, fun _ => rfl⟩
    · rw [← inv.ev] at hp
      rw [issueStep, if_pos hl, hp]
      have happ : (st.inflight ++ [it]) ++ (its' ++ flatItems ps') = st.inflight ++ (its ++ flatItems ps) := by
        rw [List.append_assoc, List.singleton_append, hitems]
      refine ⟨its', ps', ⟨rfl, hne', ?_, inv.harv, ?_, Or.inl hl, ?_⟩, ?_, Nat.le_of_lt ?lt, fun _ => ?lt, ?_⟩
      · have := inv.wire
        simp only [List.map_append, List.append_assoc, List.singleton_append] at this ⊢
        rw [htag, ← List.append_assoc, this]
      · simp [inv.cnt]; omega
      · rw [happ]; exact inv.ok
      · simp only [finalOut, happ, List.append_assoc, hfut]
      · simp [meas, hl]; omega
      · intro h; simp at h

theorem pipeLoop_spec (depth : Int) :
    ∀ (fuel : Nat) (st : PState α σ ρ) (its : List (Nat × α)) (ps : List (Packet α)),
      Inv st its ps → meas st its ps < fuel →
      pipeLoop step depth fuel st = (finalOut step st its ps, Outcome.ok) := by
  intro fuel
  induction fuel with
  | zero => intro st its ps _ h; exact absurd h (Nat.not_lt_zero _)
  | succ fuel IH =>
    intro st its ps inv hm
    rw [pipeLoop]
    by_cases hdone : (!st.live && st.inflight.isEmpty) = true
    · rw [if_pos hdone]
      simp only [Bool.and_eq_true, Bool.not_eq_eq_eq_not, Bool.not_true, List.isEmpty_iff] at hdone
      exact finish_idle step inv hdone.1 hdone.2
    · rw [if_neg hdone]
      obtain ⟨its1, ps1, inv1, hexp, hle, hlt, hne⟩ := issueStep_inv step st its ps inv
      simp only
      rw [← hexp]
      split
      · -- the harvesting half of the iteration
        have hm1 := Nat.lt_of_le_of_lt hle hm
        generalize issueStep step st = st1 at inv1 hm1 hne ⊢
        fun_cases harvestNext st1 with
        | case1 h => simp [inv1.harv] at h  -- harvester finished: excluded by `Inv.harv`
        | case2 _ hin =>
          -- nothing in flight, so the issuer is exhausted
          exact finish_idle step (st := st1) inv1 (hne hin) hin
        | case3 _ i a tl hin hwire =>  -- in flight but no reply: excluded by `Inv.wire`
          have hw := inv1.wire
          rw [hin, hwire] at hw
          simp at hw
        | case4 _ i a tl hin j r w hwire hctx =>  -- contexts agree: one item harvested
          have hw := inv1.wire
          simp only [hin, hwire, List.cons_append, List.map_cons, List.cons.injEq] at hw
          -- the induction hypothesis on the state without the two heads; the pair put out is the head of the zip
          refine (IH _ its1 ps1 ?_ ?_).trans ?_
          · exact ⟨inv1.ev, inv1.ne, hw.2, inv1.harv, by have := inv1.cnt; simp [hin] at this ⊢; omega,
              inv1.live, fun x hx => inv1.ok x (by
                simp only [hin, List.cons_append, List.mem_cons]; exact Or.inr hx)⟩
          · simp [meas, hin] at hm1 ⊢; omega
          · simp [finalOut, hin, hwire, mk, List.append_assoc]
        | case5 _ i a tl hin j r w hwire hctx =>
          -- the head of the wire answers the head in flight, with an equal context
          have hw := inv1.wire
          simp only [hin, hwire, List.cons_append, List.map_cons, List.cons.injEq] at hw
          exact absurd (hw.1 ▸ inv1.ok (i, a) (by simp [hin])) hctx
      · rename_i hc
        -- no harvest this round: the issuer is live, so something was issued
        have hlive : (issueStep step st).live = true := by
          simpa using (Bool.or_eq_false_iff.mp (Bool.eq_false_iff.mpr hc)).2
        exact IH _ its1 ps1 inv1 (Nat.lt_of_lt_of_le (hlt hlive) (Nat.le_of_lt_succ hm))

theorem flatItems_ok {ps : List (Packet α)} (hok : ∀ p ∈ ps, ctxEq p.index p.index = true) :
    ∀ it ∈ flatItems ps, ctxEq it.1 it.1 = true := by
  intro it hit
  simp only [flatItems, List.mem_flatMap, List.mem_map] at hit
  obtain ⟨p, hp, a, _, rfl⟩ := hit
  exact hok p hp

theorem pipeline_spec (depth : Int) (index : Nat) (s0 : σ)
    (ps : List (Packet α)) (hne : ∀ p ∈ ps, p.members ≠ [])
    (hok : ∀ p ∈ ps, ctxEq p.index p.index = true) :
    pipeline step depth index s0 ps
      = (List.zipWith mk (flatItems ps) (future step s0 ps), Outcome.ok) := by
  -- the invariant holds of the initial state by computation
  rw [pipeline, pipeLoop_spec step depth _ (pipeInit index s0 ps) [] ps
    ⟨rfl, hne, rfl, rfl, rfl, Or.inl rfl, flatItems_ok hok⟩]
  · simp [finalOut, pipeInit]
  · simp [meas, pipeInit, pipeFuel]

theorem syncGo_spec :
    ∀ (fuel : Nat) (its : List (Nat × α)) (ps : List (Packet α)) (s : σ) (w out : List (Nat × ρ)),
      (∀ p ∈ ps, p.members ≠ []) →
      its.map Prod.fst = w.map Prod.fst →
      (∀ it ∈ its ++ flatItems ps, ctxEq it.1 it.1 = true) →
      its.length + (eventsOf ps).length < fuel →
      syncGo step fuel (itemEvents its ++ eventsOf ps) s w out
        = (out ++ List.zipWith mk (its ++ flatItems ps) (w ++ future step s ps), Outcome.ok) := by
  intro fuel
  induction fuel with
  | zero => intro its ps s w out _ _ _ h; exact absurd h (Nat.not_lt_zero _)
  | succ fuel IH =>
    intro its ps s w out hne hw hok hm
    rw [syncGo]
    rcases pull_spec step its ps hne s w with
      ⟨rfl, rfl, hp⟩ | ⟨it, its', ps', s', new, hp, hitems, hfut, htag, hlt, hne'⟩
    · have hwn : w = [] := by simpa using hw.symm
      rw [hp, hwn]
      simp [flatItems, future]
    · rw [hp, ← hitems, ← hfut]
      -- the wire is not empty: its first reply belongs to the item just pulled
      rw [hw, ← List.map_append] at htag
      cases hwn : w ++ new with
      | nil => rw [hwn] at htag; simp at htag
      | cons rp w' =>
        simp only [hwn, List.map_cons, List.cons.injEq] at htag
        have hok' : ctxEq it.1 rp.1 = true := by
          rw [← htag.1]; exact hok it (by rw [← hitems]; simp)
        obtain ⟨i, a⟩ := it
        obtain ⟨j, r⟩ := rp
        simp only at hok' ⊢
        rw [if_pos hok', IH its' ps' s' w' _ hne' htag.2
          (fun x hx => hok x (by rw [← hitems]; simp [hx])) (by omega),
          ← List.append_assoc w new, hwn]
        simp [mk, List.append_assoc]

theorem synchronous_spec (s0 : σ) (ps : List (Packet α))
    (hne : ∀ p ∈ ps, p.members ≠ []) (hok : ∀ p ∈ ps, ctxEq p.index p.index = true) :
    synchronous step s0 ps
      = (List.zipWith mk (flatItems ps) (future step s0 ps), Outcome.ok) := by
  unfold synchronous
  have := syncGo_spec step ((eventsOf ps).length + 1) [] ps s0 [] [] hne rfl
    (flatItems_ok hok) (by simp)
  simpa [itemEvents] using this

end Cpppo.Client
