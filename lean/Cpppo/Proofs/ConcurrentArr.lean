import Cpppo.Proofs.Concurrent
import Cpppo.Proofs.Frag

/-! The array instance (`execOp`): vocabulary of the C09 statements about elements, and its lemmas. -/
namespace Cpppo.Concurrent

open Cpppo.Logix (spliceAt spliceAt_length getElem?_spliceAt)

/-- lengths of the arrays (no request changes them) -/
def shape (m : Mem) : List Nat := m.map List.length

/-- element `j` of array `k` -/
def elem (m : Mem) (k j : Nat) : Option Val := (m[k]?).bind (·[j]?)

/-- on arrays of lengths `sh` the request is an accepted write that assigns element `j` of array `k` -/
def Op.assigns (sh : List Nat) (k j : Nat) : Op → Bool
  | .write k' beg vals =>
    k' == k && decide (0 < vals.length)
      && (match sh[k']? with
          | some len => decide (beg + vals.length ≤ len)
          | none => false)
      && decide (beg ≤ j) && decide (j < beg + vals.length)
  | .read .. => false

/-- the value a write carries for element `j` -/
def Op.value (j : Nat) : Op → Option Val
  | .write _ beg vals => vals[j - beg]?
  | .read .. => none

/-- the value the last assigning request of a program carries for element `j` of array `k` -/
def lastAssigned (sh : List Nat) (k j : Nat) : List (List Op) → Option Val
  | [] => none
  | w :: rest =>
    (lastAssigned sh k j rest).or
      (match w with
       | [op] => if op.assigns sh k j then op.value j else none
       | _ => none)

/-- a program run alone -/
def runOps (m : Mem) : List (List Op) → Mem
  | [] => m
  | w :: rest => runOps (execOp m w).1 rest

/-- elements `[b, b+n)` of array `k` exist and hold one value -/
def Uniform (k b n : Nat) (m : Mem) : Prop :=
  ∃ arr v, m[k]? = some arr ∧ b + n ≤ arr.length ∧ ∀ j, b ≤ j → j < b + n → arr[j]? = some v

/-- a request that, whole, keeps the stripe `[b, b+n)` of array `k` uniform: a read; a write to another
array; a write that covers the whole stripe with one value; a write that does not touch the stripe -/
def Op.stripeSafe (k b n : Nat) : Op → Prop
  | .write k' beg vals =>
    k' ≠ k
    ∨ (beg ≤ b ∧ b + n ≤ beg + vals.length ∧ ∃ v, ∀ x ∈ (vals.drop (b - beg)).take n, x = v)
    ∨ beg + vals.length ≤ b ∨ b + n ≤ beg
  | .read .. => True

theorem shape_getElem? (m : Mem) (k : Nat) : (shape m)[k]? = (m[k]?).map List.length :=
  List.getElem?_map ..

theorem access_read_mem (m : Mem) (k beg n : Nat) : (access m (.read k beg n)).1 = m := by
  simp only [access]
  split
  · rfl
  · split <;> rfl

/- The cases of `access`, in the order of the definition: 1-3 a read (no such array, accepted, refused), 4 a write to
no array, 5 an accepted write, 6 a refused write. -/
theorem shape_access (m : Mem) (op : Op) : shape (access m op).1 = shape m := by
  fun_cases access m op
  -- an accepted write: the new array is as long as the old
  case case5 k beg vals arr harr hv =>
    apply List.ext_getElem?
    intro i
    rw [shape_getElem?, shape_getElem?, List.getElem?_set]
    split
    · rename_i hki; rw [← hki, harr]; simp [(List.getElem?_eq_some_iff.mp harr).1, spliceAt_length _ _ _ hv.2]
    · rfl
  all_goals rfl

/-- in the form `lastAssigned` collects: the value an assigning write carries, else what was there -/
theorem elem_access (m : Mem) (op : Op) (k j : Nat) :
    elem (access m op).1 k j = (if op.assigns (shape m) k j then op.value j else none).or (elem m k j) := by
  fun_cases access m op
  case case1 | case2 | case3 => rfl  -- reads
  -- a write to no array, and a refused write, assign nothing
  case case4 k' beg vals hnone => simp [Op.assigns, shape_getElem?, hnone]
  case case6 k' beg vals arr harr hv =>
    have := not_and.mp hv
    by_cases h1 : 0 < vals.length <;> simp [Op.assigns, shape_getElem?, harr, h1, this]
  case case5 k' beg vals arr harr hv =>
    simp only [Op.assigns, Op.value, shape_getElem?]
    by_cases hk : k' = k
    · subst hk
      simp only [elem, List.getElem?_set_self (List.getElem?_eq_some_iff.mp harr).1, harr, Option.bind_some,
        getElem?_spliceAt _ _ _ _ hv.2, Option.map_some, beq_self_eq_true, hv.1, hv.2, decide_true, Bool.true_and,
        Bool.and_eq_true, decide_eq_true_eq]
      split
      next h =>
        -- an assigned element has a value
        rw [List.getElem?_eq_getElem (Nat.sub_lt_left_of_lt_add h.1 h.2)]; rfl
      next => rfl
    · rw [elem, List.getElem?_set_ne hk, beq_false_of_ne hk]; rfl

theorem shape_execOp (m : Mem) (w : List Op) : shape (execOp m w).1 = shape m := by
  fun_cases execOp m w
  · exact shape_access _ _
  · rfl

theorem elem_execOp (m : Mem) (w : List Op) (k j : Nat) :
    elem (execOp m w).1 k j =
      (match w with
       | [op] => if op.assigns (shape m) k j then op.value j else none
       | _ => none).or (elem m k j) :=
  match w with
  | [op] => elem_access m op k j
  | [] | _ :: _ :: _ => rfl

/-- in a sequential order, on an element only session `a` assigns: the other sessions' requests can be left out
(`m'` runs `a`'s requests alone; it agrees with `m` on the shape and on the element) -/
theorem no_lost_write_seq (a : Sid) (k j : Nat) (order : List (Sid × List Op)) (m m' : Mem)
    (hsh : shape m = shape m') (hel : elem m k j = elem m' k j)
    (honly : ∀ e ∈ order, e.1 ≠ a → ∀ op, e.2 = [op] → op.assigns (shape m) k j = false) :
    elem (runSeq execOp m order).1 k j = elem (runOps m' (proj a order)) k j := by
  induction order generalizing m m' with
  | nil => exact hel
  | cons e rest ih =>
    obtain ⟨s, w⟩ := e
    obtain ⟨hw, honly'⟩ := List.forall_mem_cons.mp honly
    rw [← shape_execOp m w] at honly'
    simp only [runSeq]
    by_cases hs : s = a
    · -- a request of `a` is run on both sides, on memories that agree on the shape and on the element
      rw [hs, proj_cons_same, runOps]
      exact ih _ _ (by rw [shape_execOp, shape_execOp, hsh]) (by rw [elem_execOp, elem_execOp, hsh, hel]) honly'
    · -- a request of another session does not assign the element
      rw [proj_cons_other (Ne.symm hs)]
      refine ih _ _ (by rw [shape_execOp, hsh]) ?_ honly'
      rw [← hel, elem_execOp]
      split
      · rename_i op; rw [hw hs op rfl]; rfl
      · rfl

theorem runOps_elem (m : Mem) (ws : List (List Op)) (k j : Nat) :
    elem (runOps m ws) k j = (lastAssigned (shape m) k j ws).or (elem m k j) := by
  induction ws generalizing m with
  | nil => rfl
  | cons w rest ih =>
    simp only [runOps, lastAssigned]
    rw [ih, shape_execOp, Option.or_assoc, elem_execOp]

theorem read_uniform {m : Mem} {k b n : Nat} (hn : 0 < n) (hu : Uniform k b n m) :
    ∃ v, (execOp m [Op.read k b n]).2 = .data (List.replicate n v) := by
  obtain ⟨arr, v, harr, hlen, hv⟩ := hu
  refine ⟨v, ?_⟩
  simp only [execOp, access, harr]
  rw [if_pos ⟨hn, hlen⟩]
  refine congrArg Res.data (List.ext_getElem? fun i => ?_)
  rw [List.getElem?_take, List.getElem?_drop, List.getElem?_replicate]
  split
  · exact hv (b + i) (Nat.le_add_right b i) (Nat.add_lt_add_left ‹i < n› b)
  · rfl

theorem getElem?_spliceAt_cover {arr vals : List Val} {beg b n j : Nat} {v : Val} (hfit : beg + vals.length ≤ arr.length)
    (h1 : beg ≤ b) (h2 : b + n ≤ beg + vals.length) (hv : ∀ x ∈ (vals.drop (b - beg)).take n, x = v)
    (hj1 : b ≤ j) (hj2 : j < b + n) : (spliceAt arr beg vals)[j]? = some v := by
  -- `b = beg + d`, `j = b + i`: element `j` of the result is element `d + i` of `vals`, the `i`-th of the stripe
  obtain ⟨d, rfl⟩ := Nat.exists_eq_add_of_le h1
  obtain ⟨i, rfl⟩ := Nat.exists_eq_add_of_le hj1
  rw [Nat.add_sub_cancel_left] at hv
  have hi : i < n := by omega
  have hjl : d + i < vals.length := by omega
  rw [getElem?_spliceAt _ _ _ _ hfit, if_pos ⟨by omega, by omega⟩, Nat.add_assoc, Nat.add_sub_cancel_left]
  rw [List.getElem?_eq_getElem hjl, hv vals[d + i] (List.mem_iff_getElem?.mpr ⟨i, ?_⟩)]
  rw [List.getElem?_take, if_pos hi, List.getElem?_drop, List.getElem?_eq_getElem hjl]

theorem access_uniform {k b n : Nat} {m : Mem} {op : Op} (hm : Uniform k b n m) (hs : op.stripeSafe k b n) :
    Uniform k b n (access m op).1 := by
  fun_cases access m op
  -- an accepted write
  case case5 k' beg vals arr' harr' hv =>
    obtain ⟨arr, v, harr, hlen, huni⟩ := hm
    by_cases hk : k' = k
    · subst hk
      obtain rfl : arr' = arr := Option.some.inj (harr' ▸ harr)
      have hset : (m.set k' (spliceAt arr' beg vals))[k']? = some (spliceAt arr' beg vals) :=
        List.getElem?_set_self (List.getElem?_eq_some_iff.mp harr).1
      have hlen' : b + n ≤ (spliceAt arr' beg vals).length := (spliceAt_length _ _ _ hv.2).symm ▸ hlen
      rcases hs with hne | ⟨h1, h2, v', hv'⟩ | hdis
      · exact absurd rfl hne
      · exact ⟨_, v', hset, hlen', fun j => getElem?_spliceAt_cover hv.2 h1 h2 hv'⟩
      · refine ⟨_, v, hset, hlen', fun j hj1 hj2 => ?_⟩
        rw [getElem?_spliceAt _ _ _ _ hv.2, if_neg (by omega)]
        exact huni j hj1 hj2
    · exact ⟨arr, v, by rw [List.getElem?_set_ne hk]; exact harr, hlen, huni⟩
  all_goals exact hm

theorem execOp_uniform {k b n : Nat} {m : Mem} {w : List Op} (hm : Uniform k b n m)
    (hs : ∀ op, w = [op] → op.stripeSafe k b n) : Uniform k b n (execOp m w).1 := by
  fun_cases execOp m w
  case case1 op => exact access_uniform hm (hs op rfl)  -- one operation
  case case2 => exact hm  -- refused whole

end Cpppo.Concurrent
