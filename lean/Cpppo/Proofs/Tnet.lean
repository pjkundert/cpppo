import Cpppo.Model.Tnet
/-! Lemmas for C20: decimal rendering vs Python `int()`, framing, the text codecs, the round trip with
explicit fuel, the stream machine over a frame, and its first message as a function of the input. -/
namespace Cpppo.Tnet

theorem digitsLE_lt (fuel n : Nat) : ∀ d ∈ digitsLE fuel n, d < 10 := by
  -- branches of `digitsLE`: no fuel; `n < 10`; one digit and the recursive call
  fun_induction digitsLE fuel n with
  | case1 n => simpa using Nat.mod_lt n (by decide)
  | case2 f n h => simpa using h
  | case3 f n h ih => exact List.forall_mem_cons.mpr ⟨Nat.mod_lt n (by decide), ih⟩

theorem digitsLE_ne_nil (fuel n : Nat) : digitsLE fuel n ≠ [] := by
  fun_cases digitsLE fuel n <;> simp

theorem digitsLE_value (fuel n : Nat) (h : n ≤ fuel) :
    (digitsLE fuel n).foldr (fun d a => a * 10 + d) 0 = n := by
  fun_induction digitsLE fuel n with
  | case1 n => simp; omega
  | case2 f n hn => simp
  | case3 f n hn ih => rw [List.foldr_cons, ih (by omega)]; exact Nat.div_add_mod' n 10

/-- value of a string of ASCII digits, most significant first (what `int()` computes) -/
def decVal (acc : Nat) (ds : Bytes) : Nat := ds.foldl (fun a b => a * 10 + (b - 48)) acc

theorem decVal_natDec (n : Nat) : decVal 0 (natDec n) = n := by
  unfold decVal natDec
  rw [List.foldl_map, List.foldl_reverse]
  simpa only [Nat.add_sub_cancel_left] using digitsLE_value n n (Nat.le_refl n)

theorem natDec_digits (n : Nat) : ∀ b ∈ natDec n, isDigit b = true := by
  intro b hb
  simp only [natDec, List.mem_map, List.mem_reverse] at hb
  obtain ⟨d, hd, rfl⟩ := hb
  have := digitsLE_lt _ _ d hd
  simp [isDigit]; omega

theorem natDec_ne_nil (n : Nat) : natDec n ≠ [] := by
  simp [natDec, digitsLE_ne_nil]

theorem pyDigits_digits (ds : Bytes) (acc : Nat) (h : ∀ b ∈ ds, isDigit b = true) :
    pyDigits acc false ds = some (decVal acc ds) := by
  induction ds generalizing acc with
  | nil => rfl
  | cons b ds ih =>
    obtain ⟨hb, hds⟩ := List.forall_mem_cons.mp h
    rw [pyDigits, if_pos hb, ih _ hds]; rfl

theorem pyNat_digits (ds : Bytes) (hne : ds ≠ []) (h : ∀ b ∈ ds, isDigit b = true) :
    pyNat ds = some (decVal 0 ds) := by
  cases ds with
  | nil => exact absurd rfl hne
  | cons b ds =>
    obtain ⟨hb, hds⟩ := List.forall_mem_cons.mp h
    rw [pyNat, if_pos hb, pyDigits_digits _ _ hds]
    simp [decVal]

theorem pyInt_digits (ds : Bytes) (hne : ds ≠ []) (h : ∀ b ∈ ds, isDigit b = true) :
    pyInt ds = some (Int.ofNat (decVal 0 ds)) := by
  cases ds with
  | nil => exact absurd rfl hne
  | cons b ds =>
    -- a leading digit is neither space nor sign: `int()` goes straight to the digits
    have hb : 48 ≤ b ∧ b ≤ 57 := by simpa [isDigit] using h b (by simp)
    rw [pyInt, dropSpace, if_neg (by simp [isSpace]; omega)]
    split
    · rename_i heq; cases heq; simp at hb
    · rename_i heq; cases heq; simp at hb
    · rw [pyNat_digits _ hne h]; rfl

theorem pyInt_natDec (n : Nat) : pyInt (natDec n) = some (Int.ofNat n) := by
  rw [pyInt_digits _ (natDec_ne_nil n) (natDec_digits n), decVal_natDec]

theorem pyInt_intDec (i : Int) : pyInt (intDec i) = some i := by
  cases i with
  | ofNat n => exact pyInt_natDec n
  | negSucc n =>
    have h := pyNat_digits _ (natDec_ne_nil (n + 1)) (natDec_digits (n + 1))
    rw [decVal_natDec] at h
    -- on a leading `-`, `pyInt` computes to the negated `pyNat` of what follows
    exact congrArg (Option.map fun n => - Int.ofNat n) h

theorem splitColon_append (ds X : Bytes) (h : ∀ b ∈ ds, b ≠ 58) :
    splitColon (ds ++ 58 :: X) = some (ds, X) := by
  induction ds with
  | nil => rfl
  | cons b ds ih =>
    obtain ⟨hb, hds⟩ := List.forall_mem_cons.mp h
    rw [List.cons_append, splitColon, if_neg (by simpa using hb), ih hds]

theorem frame_length (p : Bytes) (t : Nat) :
    (frame p t).length = (natDec p.length).length + 1 + p.length + 1 := by
  simp [frame]; omega

/-- `parse_payload` on any all-digit prefix whose value is the payload length (leading zeros allowed) -/
theorem parsePayload_digits (ds p : Bytes) (t : Nat) (rest : Bytes) (hne : ds ≠ [])
    (hd : ∀ b ∈ ds, isDigit b = true) (hl : decVal 0 ds = p.length) :
    parsePayload (ds ++ 58 :: (p ++ t :: rest)) = some (p, t, rest) := by
  unfold parsePayload
  have hcolon : ∀ b ∈ ds, b ≠ 58 := fun b hb => by have := hd b hb; simp [isDigit] at this; omega
  rw [splitColon_append ds _ hcolon]
  simp [pyInt_digits ds hne hd, hl]

theorem parsePayload_frame (p : Bytes) (t : Nat) (rest : Bytes) :
    parsePayload (frame p t ++ rest) = some (p, t, rest) := by
  simpa [frame] using parsePayload_digits _ p t rest (natDec_ne_nil _) (natDec_digits _) (decVal_natDec _)

/-! ### UTF-8

The decoder on each of the four forms, the bytes given by the bits they carry: a lead byte `192 + a`
(`224 + a`, `240 + a`) and continuation bytes `128 + b % 64`.  Stated about variables, so that the
case analysis of `utf8Dec` never sees a quotient of the code point. -/

theorem isCont_add (b : Nat) : isCont (128 + b % 64) = true := by
  simp [isCont]; omega

theorem isScalar_lt {c : Nat} (h : isScalar c = true) : c < 1114112 := by
  simp [isScalar] at h; omega

theorem utf8Dec_one {b : Nat} (h : b < 128) (rest : Bytes) :
    utf8Dec (b :: rest) = (utf8Dec rest).map (b :: ·) := by
  rw [utf8Dec.eq_def]; simp only [if_pos h]

theorem utf8Dec_two {a b cp : Nat} (h2 : 2 ≤ a) (ha : a < 32) (e : a * 64 + b % 64 = cp) (rest : Bytes) :
    utf8Dec ((192 + a) :: (128 + b % 64) :: rest) = (utf8Dec rest).map (cp :: ·) := by
  rw [utf8Dec, if_neg (by omega), if_neg (by omega), if_pos (by omega)]
  simp only [isCont_add, if_true, Nat.add_sub_cancel_left, e]

theorem utf8Dec_three {a b c cp : Nat} (ha : a < 16) (e : a * 4096 + b % 64 * 64 + c % 64 = cp)
    (h : 2048 ≤ cp) (hs : isScalar cp = true) (rest : Bytes) :
    utf8Dec ((224 + a) :: (128 + b % 64) :: (128 + c % 64) :: rest) = (utf8Dec rest).map (cp :: ·) := by
  rw [utf8Dec, if_neg (by omega), if_neg (by omega), if_neg (by omega), if_pos (by omega)]
  simp only [isCont_add, Nat.add_sub_cancel_left, e, hs, h, decide_true, Bool.and_self, if_true]

theorem utf8Dec_four {a b c d cp : Nat} (ha : a < 5) (e : a * 262144 + b % 64 * 4096 + c % 64 * 64 + d % 64 = cp)
    (h : 65536 ≤ cp) (h' : cp < 1114112) (rest : Bytes) :
    utf8Dec ((240 + a) :: (128 + b % 64) :: (128 + c % 64) :: (128 + d % 64) :: rest)
      = (utf8Dec rest).map (cp :: ·) := by
  rw [utf8Dec, if_neg (by omega), if_neg (by omega), if_neg (by omega), if_neg (by omega), if_pos (by omega)]
  simp only [isCont_add, Nat.add_sub_cancel_left, e, h, h', decide_true, Bool.and_self, if_true]

/-- two neighbouring base-64 digits of `c`, the lower one at weight `k` -/
theorem split64 (c k n : Nat) (h : n = k * 64) : c / n * n + c / k % 64 * k = c / k * k := by
  subst h
  rw [← Nat.div_div_eq_div_mul, Nat.mul_comm k 64, ← Nat.mul_assoc, ← Nat.add_mul, Nat.div_add_mod']

theorem utf8Dec_encCp (c : Nat) (hc : isScalar c = true) (rest : Bytes) :
    utf8Dec (utf8EncCp c ++ rest) = (utf8Dec rest).map (c :: ·) := by
  unfold utf8EncCp
  split
  · exact utf8Dec_one ‹_› rest
  split
  · have h2 : 2 ≤ c / 64 := (Nat.le_div_iff_mul_le (by decide)).mpr (Nat.le_of_not_lt ‹_›)
    exact utf8Dec_two h2 (Nat.div_lt_of_lt_mul ‹_›) (Nat.div_add_mod' c 64) rest
  split
  · refine utf8Dec_three (Nat.div_lt_of_lt_mul ‹_›) ?_ (Nat.le_of_not_lt ‹_›) hc rest
    rw [split64 c 64 4096 rfl, Nat.div_add_mod']
  · have h5 : c < 262144 * 5 := Nat.lt_trans (isScalar_lt hc) (by decide)
    refine utf8Dec_four (Nat.div_lt_of_lt_mul h5) ?_ (Nat.le_of_not_lt ‹_›) (isScalar_lt hc) rest
    rw [split64 c 4096 262144 rfl, split64 c 64 4096 rfl, Nat.div_add_mod']

/-- `s.encode('utf-8').decode('utf-8') == s` for text made of Unicode scalar values -/
theorem utf8Dec_enc (cps : List Nat) (h : cps.all isScalar = true) :
    utf8Dec (utf8Enc cps) = some cps := by
  induction cps with
  | nil => rfl
  | cons c cs ih =>
    rw [List.all_cons, Bool.and_eq_true] at h
    rw [utf8Enc, utf8Dec_encCp c h.1, ih h.2]
    rfl

theorem unitsOf_bytes (us : List Nat) (rest : Bytes) :
    unitsOf true ((us.flatMap fun u => [u % 256, u / 256]) ++ rest) = (unitsOf true rest).map (us ++ ·) := by
  induction us with
  | nil => simp
  | cons u us ih =>
    simp only [List.flatMap_cons, List.cons_append, List.nil_append, unitsOf, ih, if_true, Nat.mod_add_div,
      Option.map_map]
    rfl

theorem unitsOf_enc (cps : List Nat) :
    unitsOf true (utf16EncLE cps) = some (cps.flatMap utf16Units) := by
  induction cps with
  | nil => rfl
  | cons c cs ih => rw [utf16EncLE, unitsOf_bytes, ih]; rfl

theorem decUnits_bmp {u : Nat} (h : u < 55296 ∨ 57344 ≤ u) (rest : List Nat) :
    decUnits (u :: rest) = (decUnits rest).map (u :: ·) := by
  rw [decUnits.eq_def]; simp [h]

theorem decUnits_pair {a b cp : Nat} (ha : a < 1024) (e : 65536 + a * 1024 + b % 1024 = cp) (rest : List Nat) :
    decUnits ((55296 + a) :: (56320 + b % 1024) :: rest) = (decUnits rest).map (cp :: ·) := by
  have h : ¬ (55296 + a < 55296 ∨ 57344 ≤ 55296 + a) ∧ 55296 + a < 56320 ∧ 56320 + b % 1024 < 57344 := by
    omega
  rw [decUnits.eq_def]; simp [h, e]

theorem decUnits_units (c : Nat) (hc : isScalar c = true) (rest : List Nat) :
    decUnits (utf16Units c ++ rest) = (decUnits rest).map (c :: ·) := by
  unfold utf16Units
  split
  · simp only [isScalar, Bool.or_eq_true, Bool.and_eq_true, decide_eq_true_eq] at hc
    exact decUnits_bmp (by omega) rest
  · have hd : c - 65536 < 1024 * 1024 := by have := isScalar_lt hc; omega
    refine decUnits_pair (Nat.div_lt_of_lt_mul hd) ?_ rest
    rw [Nat.add_assoc, Nat.div_add_mod', Nat.add_sub_of_le (Nat.le_of_not_lt ‹_›)]

theorem decUnits_flatMap (cps : List Nat) (h : cps.all isScalar = true) :
    decUnits (cps.flatMap utf16Units) = some cps := by
  induction cps with
  | nil => rfl
  | cons c cs ih =>
    rw [List.all_cons, Bool.and_eq_true] at h
    rw [List.flatMap_cons, decUnits_units c h.1, ih h.2]
    rfl

theorem utf16Dec_enc (cps : List Nat) (h : cps.all isScalar = true) :
    utf16Dec true (utf16EncLE cps) = some cps := by
  simp [utf16Dec, unitsOf_enc, decUnits_flatMap cps h]

/-- `s.encode(E).decode(E) == s` for every modelled codec, whenever `encode` succeeds -/
theorem decText_encText (e : Enc) (cps : List Nat) (h : encOk e cps = true) :
    decText e (encText e cps) = some cps := by
  cases e with
  | utf8 => exact utf8Dec_enc cps h
  | latin1 => rfl
  | ascii => exact if_pos h
  | utf16 => exact utf16Dec_enc cps h

mutual
/-- recursion fuel that `parseF` needs for the serialisation of a value -/
def size : TVal → Nat
  | .list vs => 1 + sizeL vs
  | .dict kvs => 1 + sizeD kvs
  | _ => 1
def sizeL : TList → Nat
  | .nil => 1
  | .cons v vs => 1 + size v + sizeL vs
def sizeD : TDict → Nat
  | .nil => 1
  | .cons _ v kvs => 2 + size v + sizeD kvs
end

theorem frame_length_ge (p : Bytes) (t : Nat) : p.length + 3 ≤ (frame p t).length := by
  have := List.length_pos_iff.mpr (natDec_ne_nil p.length)
  rw [frame_length]; omega

mutual
theorem size_lt_dump (e : Enc) : ∀ v : TVal, size v + 1 ≤ (dump e v).length
  | .int _ | .float _ | .bool _ | .bytes _ | .text _ => Nat.le_trans (Nat.le_add_left 2 _) (frame_length_ge _ _)
  | .null => Nat.le_succ 2
  | .list vs => by
    have := frame_length_ge (dumpList e vs) 93
    have := sizeL_le_dump e vs
    simp only [size, dump]; omega
  | .dict kvs => by
    have := frame_length_ge (dumpDict e kvs) 125
    have := sizeD_le_dump e kvs
    simp only [size, dump]; omega
theorem sizeL_le_dump (e : Enc) : ∀ vs : TList, sizeL vs ≤ (dumpList e vs).length + 1
  | .nil => Nat.le_refl 1
  | .cons v vs => by
    have := size_lt_dump e v
    have := sizeL_le_dump e vs
    simp only [sizeL, dumpList, List.length_append]; omega
theorem sizeD_le_dump (e : Enc) : ∀ kvs : TDict, sizeD kvs ≤ (dumpDict e kvs).length + 1
  | .nil => Nat.le_refl 1
  | .cons k v kvs => by
    have := size_lt_dump e v
    have := sizeD_le_dump e kvs
    have := frame_length_ge k 44
    simp only [sizeD, dumpDict, List.length_append]; omega
end

theorem dump_ne_nil (e : Enc) (v : TVal) : dump e v ≠ [] :=
  List.ne_nil_of_length_pos (Nat.lt_of_lt_of_le (Nat.succ_pos _) (size_lt_dump e v))

/-! ### dictionaries with distinct keys are rebuilt as they were -/

theorem lookup_erase_of_not_hasKey (k : List Nat) : ∀ kvs : TDict,
    TDict.hasKey k kvs = false → TDict.lookup k kvs = none ∧ TDict.erase k kvs = kvs
  | .nil, _ => ⟨rfl, rfl⟩
  | .cons k' v kvs, h => by
    simp only [TDict.hasKey, Bool.or_eq_false_iff, beq_eq_false_iff_ne] at h
    obtain ⟨hl, he⟩ := lookup_erase_of_not_hasKey k kvs h.2
    simp [TDict.lookup, TDict.erase, hl, he, h.1]

theorem put_fresh (k : List Nat) (v : TVal) (kvs : TDict) (h : TDict.hasKey k kvs = false) :
    TDict.put k v kvs = .cons k v kvs := by
  obtain ⟨hl, he⟩ := lookup_erase_of_not_hasKey k kvs h
  simp [TDict.put, hl, he]

theorem dump_null (e : Enc) : dump e .null = frame [] 126 := rfl

/-- The round trip for values, lists and dictionaries together, by induction on the fuel (the
recursion of `parseF`).  All codecs at once: a dictionary key is parsed with the default codec
whatever the caller's, and is then the round trip of a `,` string one level down. -/
theorem parse_dump_fuel : ∀ fuel : Nat,
    (∀ e v rest, wf e v = true → size v ≤ fuel → parseF e fuel (dump e v ++ rest) = some (v, rest)) ∧
    (∀ e vs, wfList e vs = true → sizeL vs ≤ fuel → parseListF e fuel (dumpList e vs) = some vs) ∧
    (∀ e kvs, wfDict e kvs = true → sizeD kvs ≤ fuel → parseDictF e fuel (dumpDict e kvs) = some kvs)
  | 0 => by
    refine ⟨fun _ v _ _ hs => ?_, fun _ vs _ hs => ?_, fun _ kvs _ hs => ?_⟩
    · cases v <;> simp [size] at hs
    · cases vs <;> simp [sizeL] at hs
    · cases kvs <;> simp [sizeD] at hs
  | fuel + 1 => by
    obtain ⟨ihV, ihL, ihD⟩ := parse_dump_fuel fuel
    refine ⟨fun e v rest h hs => ?_, fun e vs h hs => ?_, fun e kvs h hs => ?_⟩
    · -- `parse_payload` splits a frame off by its length (`erw`: `dump` of a constructor is a frame by definition);
      -- the dispatch of `parseF` on a literal type byte computes
      rw [parseF]
      cases v with
      | int i => erw [parsePayload_frame]; exact congrArg (Option.map _) (pyInt_intDec i)
      | float tok => erw [parsePayload_frame]; exact if_pos h
      | bool b => erw [parsePayload_frame]; cases b <;> rfl
      | null => rw [dump_null, parsePayload_frame]; rfl
      | bytes bs => erw [parsePayload_frame]; rfl
      | text cps => erw [parsePayload_frame]; exact congrArg (Option.map _) (decText_encText e cps h)
      | list vs =>
        simp only [size] at hs
        erw [parsePayload_frame]; exact congrArg (Option.map _) (ihL e vs h (by omega))
      | dict kvs =>
        simp only [size] at hs
        erw [parsePayload_frame]; exact congrArg (Option.map _) (ihD e kvs h (by omega))
    · cases vs with
      | nil => simp [parseListF, dumpList]
      | cons v vs =>
        simp only [wfList, Bool.and_eq_true] at h
        simp only [sizeL] at hs
        simp [dumpList, parseListF, dump_ne_nil, ihV e v _ h.1 (by omega), ihL e vs h.2 (by omega)]
    · cases kvs with
      | nil => simp [parseDictF, dumpDict]
      | cons k v kvs =>
        simp only [wfDict, Bool.and_eq_true, Bool.not_eq_true'] at h
        simp only [sizeD] at hs
        obtain ⟨⟨⟨hk, hfresh⟩, hv⟩, hd⟩ := h
        have hkey := ihV .utf8 (.bytes k) (dump e v ++ dumpDict e kvs) rfl (by simp only [size]; omega)
        simp only [dump] at hkey
        have hne : frame k 44 ≠ [] := dump_ne_nil e (.bytes k)
        simp [dumpDict, parseDictF, hne, hkey, dump_ne_nil, ihV e v _ hv (by omega), ihD e kvs hd (by omega),
          hk, put_fresh k v kvs hfresh]

theorem parseListF_dump (e : Enc) : ∀ (vs : TList) (fuel : Nat), wfList e vs = true → sizeL vs ≤ fuel →
    parseListF e fuel (dumpList e vs) = some vs :=
  fun vs fuel => (parse_dump_fuel fuel).2.1 e vs

theorem parseDictF_dump (e : Enc) : ∀ (kvs : TDict) (fuel : Nat), wfDict e kvs = true → sizeD kvs ≤ fuel →
    parseDictF e fuel (dumpDict e kvs) = some kvs :=
  fun kvs fuel => (parse_dump_fuel fuel).2.2 e kvs

-- `ign` (the `ignore=` symbols) is the explicit first argument of every lemma from here on
variable (ign : Bytes)

theorem feed_append (r : Run) (a b : Bytes) : feed ign r (a ++ b) = feed ign (feed ign r a) b := by
  simp [feed, List.foldl_append]

theorem feed_cons (r : Run) (b : Nat) (bs : Bytes) : feed ign r (b :: bs) = feed ign (step ign r b) bs := rfl

theorem feed_nil (r : Run) : feed ign r [] = r := rfl

theorem feed_size_digits (ds : Bytes) (h : ∀ b ∈ ds, isDigit b = true) (n : Nat) (out : List (TVal × Nat))
    (s : Nat) : feed ign ⟨.size n, out, s⟩ ds = ⟨.size (decVal n ds), out, s + ds.length⟩ := by
  induction ds generalizing n s with
  | nil => rfl
  | cons b ds ih =>
    obtain ⟨hb, hds⟩ := List.forall_mem_cons.mp h
    simp only [feed_cons, step, hb, if_true, ih hds, List.length_cons, Nat.add_assoc, Nat.add_comm 1]
    rfl

/-- the `ignore=` symbols must not be digits, or they would eat the length prefix -/
def IgnOk (ign : Bytes) : Prop := ∀ b ∈ ign, isDigit b = false

instance : Decidable (IgnOk ign) := by unfold IgnOk; infer_instance

theorem not_ign_of_digit {ign : Bytes} (hi : IgnOk ign) {b : Nat} (hb : isDigit b = true) :
    ign.contains b = false :=
  Bool.eq_false_iff.mpr fun h => by simpa [hb] using hi b (List.contains_iff_mem.mp h)

theorem feed_start_digits (hi : IgnOk ign) (ds : Bytes) (hne : ds ≠ []) (h : ∀ b ∈ ds, isDigit b = true)
    (out : List (TVal × Nat)) (s : Nat) :
    feed ign ⟨.start, out, s⟩ ds = ⟨.size (decVal 0 ds), out, s + ds.length⟩ := by
  cases ds with
  | nil => exact absurd rfl hne
  | cons b ds =>
    obtain ⟨hb, hds⟩ := List.forall_mem_cons.mp h
    simp only [feed_cons, step, hb, not_ign_of_digit hi hb, if_true, Bool.false_eq_true, if_false,
      feed_size_digits ign ds hds, List.length_cons, Nat.add_assoc, Nat.add_comm 1]
    simp [decVal]

theorem feed_start_seps (seps : Bytes) (h : ∀ b ∈ seps, ign.contains b = true)
    (out : List (TVal × Nat)) (s : Nat) :
    feed ign ⟨.start, out, s⟩ seps = ⟨.start, out, s + seps.length⟩ := by
  induction seps generalizing s with
  | nil => rfl
  | cons b seps ih =>
    obtain ⟨hb, hseps⟩ := List.forall_mem_cons.mp h
    simp only [feed_cons, step, hb, if_true, ih hseps, List.length_cons, Nat.add_assoc, Nat.add_comm 1]

theorem feed_data (p : Bytes) (k : Nat) (acc : Bytes) (out : List (TVal × Nat)) (s : Nat) :
    feed ign ⟨.data (p.length + k) acc, out, s⟩ p = ⟨.data k (acc ++ p), out, s + p.length⟩ := by
  induction p generalizing acc s with
  | nil => simp [feed_nil]
  | cons b p ih =>
    rw [feed_cons, List.length_cons, Nat.add_right_comm]
    simp only [step, ih, Nat.add_assoc, Nat.add_comm 1, List.append_assoc, List.singleton_append]

/-- the machine over one framed payload: SIZE digits, COLON, exactly SIZE bytes of DATA whatever they
are, then the TYPE byte -/
theorem feed_frame (hi : IgnOk ign) (p : Bytes) (t : Nat) (out : List (TVal × Nat)) (s : Nat) :
    feed ign ⟨.start, out, s⟩ (frame p t) =
      step ign ⟨.data 0 p, out, s + (natDec p.length).length + 1 + p.length⟩ t := by
  have colon : ∀ n s', step ign ⟨.size n, out, s'⟩ 58 = ⟨.data n [], out, s' + 1⟩ := fun _ _ => rfl
  have data : ∀ s', feed ign ⟨.data p.length [], out, s'⟩ p = ⟨.data 0 p, out, s' + p.length⟩ :=
    feed_data ign p 0 [] out
  rw [frame, feed_append, feed_start_digits ign hi _ (natDec_ne_nil _) (natDec_digits _), decVal_natDec,
    feed_cons, colon, feed_append, data]
  rfl

theorem feed_frame_bad (hi : IgnOk ign) (p : Bytes) (t : Nat) (h : convert t p = none)
    (out : List (TVal × Nat)) (s : Nat) :
    (feed ign ⟨.start, out, s⟩ (frame p t)).st = .failed
      ∧ (feed ign ⟨.start, out, s⟩ (frame p t)).out = out := by
  rw [feed_frame ign hi]
  cases ht : isType t <;> simp [step, h, ht]

theorem feed_failed (bs : Bytes) (out : List (TVal × Nat)) (s : Nat) :
    feed ign ⟨.failed, out, s⟩ bs = ⟨.failed, out, s⟩ := by
  induction bs with
  | nil => rfl
  | cons b bs ih => rw [feed_cons]; simpa [step] using ih

theorem step_out_prefix (r : Run) (b : Nat) : ∃ more, (step ign r b).out = r.out ++ more := by
  fun_cases step ign r b
  -- state DATA 0, a type byte whose payload converts to `v`: the delivery
  case case9 acc _ _ v _ => exact ⟨[(v, r.sent + 1)], rfl⟩
  -- every other branch only touches `st` and `sent`
  all_goals exact ⟨[], (List.append_nil _).symm⟩

/-! ### the first message of the machine as a function of the input (`scan1`), and its relation
to `parse` on arbitrary input -/

/-- DATA then TYPE: `k` more payload bytes, then the type byte; `s` = symbols consumed so far -/
def scanData : Nat → Bytes → Nat → Bytes → Option (TVal × Nat × Bytes)
  | _, _, _, [] => none
  | 0, acc, s, t :: rest => if isType t then (convert t acc).map fun v => (v, s + 1, rest) else none
  | k + 1, acc, s, b :: rest => scanData k (acc ++ [b]) (s + 1) rest

/-- SIZE (at least one digit already read, value `n`), then COLON -/
def scanSize : Nat → Nat → Bytes → Option (TVal × Nat × Bytes)
  | _, _, [] => none
  | n, s, b :: rest =>
    if isDigit b then scanSize (n * 10 + (b - 48)) (s + 1) rest
    else if b == 58 then scanData n [] (s + 1) rest
    else none

/-- the first message from a message boundary: leading `ignore=` symbols are skipped; result =
(payload, symbols consumed so far, remaining input), or `none` when the input ends first or the
machine fails -/
def scan1 (ign : Bytes) : Nat → Bytes → Option (TVal × Nat × Bytes)
  | _, [] => none
  | s, b :: rest =>
    if ign.contains b then scan1 ign (s + 1) rest
    else if isDigit b then scanSize (b - 48) (s + 1) rest else none

/-- the scanner that goes with each state of the machine -/
def scanFrom (ign : Bytes) : St → Nat → Bytes → Option (TVal × Nat × Bytes)
  | .start, s, data => scan1 ign s data
  | .size n, s, data => scanSize n s data
  | .data k acc, s, data => scanData k acc s data
  | .failed, _, _ => none

/-- the machine's behaviour up to and including its next message is the scanner of its state -/
theorem scanFrom_feed (data : Bytes) (st : St) (s : Nat) (out : List (TVal × Nat)) :
    match scanFrom ign st s data with
    | some (v, m, rest) => feed ign ⟨st, out, s⟩ data = feed ign ⟨.start, out ++ [(v, m)], m⟩ rest
    | none => (feed ign ⟨st, out, s⟩ data).out = out := by
  induction data generalizing st s with
  | nil =>
    cases st with
    | data k acc => cases k <;> rfl
    | _ => rfl
  | cons b data ih =>
    cases st with
    | start =>
      simp only [scanFrom, scan1, feed_cons, step]
      cases ign.contains b with
      | true => exact ih .start (s + 1)
      | false =>
        cases isDigit b with
        | true => exact ih (.size (b - 48)) (s + 1)
        | false => simp [feed_failed]
    | size n =>
      simp only [scanFrom, scanSize, feed_cons, step]
      cases isDigit b with
      | true => exact ih (.size (n * 10 + (b - 48))) (s + 1)
      | false =>
        cases b == 58 with
        | true => exact ih (.data n []) (s + 1)
        | false => simp [feed_failed]
    | data k acc =>
      cases k with
      | zero =>
        simp only [scanFrom, scanData, feed_cons, step]
        cases isType b with
        | false => simp [feed_failed]
        | true => cases convert b acc <;> simp [feed_failed]
      | succ k => exact ih (.data k (acc ++ [b])) (s + 1)
    | failed => simp [scanFrom, feed_failed]

/-! What a successful scan says about its input.  All three carry the same count: every symbol up to
`rest` has been consumed once. -/

theorem scanData_inv {v : TVal} {m : Nat} {rest : Bytes} (data : Bytes) (k : Nat) (acc : Bytes) (s : Nat)
    (h : scanData k acc s data = some (v, m, rest)) :
    ∃ p t, data = p ++ t :: rest ∧ p.length = k ∧ convert t (acc ++ p) = some v
      ∧ m + rest.length = s + data.length := by
  revert h
  -- branches of `scanData`: input ends; `k = 0`, a type byte; `k = 0`, no type byte; one more payload byte
  fun_induction scanData k acc s data with
  | case1 | case3 => nofun
  | case2 acc s t data ht =>
    intro h
    obtain ⟨w, hw, he⟩ := Option.map_eq_some_iff.mp h
    cases he
    exact ⟨[], t, rfl, rfl, by simpa using hw, by simp only [List.length_cons]; omega⟩
  | case4 k acc s b data ih =>
    intro h
    obtain ⟨p, t, hd, hl, hc, hm⟩ := ih h
    exact ⟨b :: p, t, congrArg (b :: ·) hd, congrArg (· + 1) hl, by simpa using hc,
      by simp only [List.length_cons]; omega⟩

/-- SIZE after the digits `pre` (value `n`): what the scanner goes on to deliver is what `parse_payload`
splits off `pre ++ data` -/
theorem scanSize_payload {v : TVal} {m : Nat} {rest : Bytes} (data pre : Bytes) (hne : pre ≠ [])
    (hd : ∀ b ∈ pre, isDigit b = true) (n s : Nat) (hn : decVal 0 pre = n)
    (h : scanSize n s data = some (v, m, rest)) :
    ∃ p t, parsePayload (pre ++ data) = some (p, t, rest) ∧ convert t p = some v
      ∧ m + rest.length = s + data.length := by
  revert h
  -- branches of `scanSize`: input ends; a digit; the colon; any other symbol
  fun_induction scanSize n s data generalizing pre with
  | case1 | case4 => nofun
  | case2 n s b data hb ih =>
    intro h
    obtain ⟨p, t, hp, hc, hm⟩ := ih (pre ++ [b]) (by simp) (by simpa [or_imp, forall_and, hb] using hd)
      (by simp [decVal, ← hn]) h
    exact ⟨p, t, by simpa using hp, hc, by simp only [List.length_cons]; omega⟩
  | case3 n s b data hb hc =>
    intro h
    obtain ⟨p, t, hdat, hl, hcv, hm⟩ := scanData_inv data _ [] (s + 1) h
    obtain rfl : b = 58 := by simpa using hc
    exact ⟨p, t, hdat ▸ parsePayload_digits pre p t rest hne hd (hn.trans hl.symm), hcv,
      by simp only [List.length_cons]; omega⟩

/-- what `convert` delivers is what `parse` (default codec, as the machine decodes `$` as utf-8)
returns for the same payload and type byte -/
theorem parseF_of_convert (fuel : Nat) {data p : Bytes} {t : Nat} {v : TVal} {rest : Bytes}
    (hp : parsePayload data = some (p, t, rest)) (hc : convert t p = some v) :
    parseF .utf8 (fuel + 1) data = some (v, rest) := by
  rw [parseF, hp]
  revert hc
  -- branches of `convert`: `,`; `$`; `#`; `~` with empty payload; `~` otherwise; any other type byte
  fun_cases convert t p with
  | case1 h => subst h; intro hc; cases hc; rfl
  | case2 _ h =>
    subst h; intro hc
    obtain ⟨cps, h1, rfl⟩ := Option.map_eq_some_iff.mp hc
    simp [decText, h1]
  | case3 _ _ h =>
    subst h; intro hc
    obtain ⟨i, h1, rfl⟩ := Option.map_eq_some_iff.mp hc
    simp [h1]
  | case4 _ _ _ h hl => subst h; intro hc; cases hc; simp [hl]
  | case5 | case6 => nofun

/-- a first message of the machine is what `parse` returns on the same input once the leading
separators are dropped, and the machine has consumed exactly the separators plus what `parse` consumed -/
theorem scan1_parse {v : TVal} {m : Nat} {rest : Bytes} (data : Bytes) (s : Nat)
    (h : scan1 ign s data = some (v, m, rest)) :
    (∃ seps body, data = seps ++ body ∧ (∀ b ∈ seps, ign.contains b = true)
        ∧ parse .utf8 body = some (v, rest))
      ∧ m + rest.length = s + data.length := by
  revert h
  -- branches of `scan1`: input ends; a separator; a digit; any other symbol
  fun_induction scan1 ign s data with
  | case1 | case4 => nofun
  | case2 s b data hi ih =>
    intro h
    obtain ⟨⟨seps, body, hd, hs, hp⟩, hm⟩ := ih h
    exact ⟨⟨b :: seps, body, congrArg (b :: ·) hd, List.forall_mem_cons.mpr ⟨hi, hs⟩, hp⟩,
      by simp only [List.length_cons]; omega⟩
  | case3 s b data hi hb =>
    intro h
    obtain ⟨p, t, hp, hc, hm⟩ :=
      scanSize_payload data [b] (by simp) (by simpa using hb) _ (s + 1) (by simp [decVal]) h
    exact ⟨⟨[], b :: data, rfl, by simp, parseF_of_convert _ hp hc⟩, by simp only [List.length_cons]; omega⟩

end Cpppo.Tnet
