import Cpppo.Model.Dotdict

/-!
Lemmas for C16 (`Cpppo.Dotdict`), in five parts: association lists and list subscripts; the text of a literal
segment (`LitSeg`, `GoodSeg`, `parseSeg_final`); `setK_cases`, the six ways an assignment goes, and what follows from
it (lookup after assignment, independent paths, reserved names); the invariant "every level is a map with `P` keys"
(`wfT`/`wfK`/`wfL`, `wfRoot_run`); copies and plain dicts (`copyT_ok`, `conv_wf`, `convItems_snoc`).
-/
namespace Cpppo.Dotdict

/-! ### association lists and list subscripts -/

theorem lookupK_insertK_same (k : Name) (v : Tree) (kvs : Kvs) :
    lookupK k (insertK k v kvs) = some v := by
  fun_induction insertK k v kvs <;> simp_all [lookupK]

theorem lookupK_insertK_other (k k' : Name) (v : Tree) (kvs : Kvs) (h : k' ≠ k) :
    lookupK k' (insertK k v kvs) = lookupK k' kvs := by
  fun_induction insertK k v kvs <;> simp_all [lookupK]

theorem insertK_same_val (k : Name) (v : Tree) (kvs : Kvs) (h : lookupK k kvs = some v) :
    insertK k v kvs = kvs := by
  fun_induction insertK k v kvs <;> simp_all [lookupK]

theorem insertK_absent (k : Name) (v : Tree) (kvs : Kvs) (h : lookupK k kvs = none) :
    insertK k v kvs = kvs ++ [(k, v)] := by
  fun_induction insertK k v kvs <;> simp_all [lookupK]

theorem lookupK_eraseK_other (k k' : Name) (kvs : Kvs) (h : k' ≠ k) :
    lookupK k' (eraseK k kvs) = lookupK k' kvs := by
  fun_induction eraseK k kvs <;> simp_all [lookupK]

/-- the raw keys of a level, in order -/
def keysK (kvs : Kvs) : List Name := kvs.map (·.1)

theorem lookupK_none_iff (k : Name) (kvs : Kvs) : lookupK k kvs = none ↔ k ∉ keysK kvs := by
  induction kvs with
  | nil => simp [lookupK, keysK]
  | cons hd tl ih =>
    obtain ⟨k', v'⟩ := hd
    by_cases h : k = k'
    · simp [lookupK, keysK, h]
    · simp only [lookupK, h, if_false, ih, keysK, List.map_cons, List.mem_cons, false_or]

theorem mem_keysK_of_lookupK {k : Name} {kvs : Kvs} {v : Tree} (h : lookupK k kvs = some v) : k ∈ keysK kvs :=
  Decidable.not_not.mp fun hn => by simp [(lookupK_none_iff k kvs).mpr hn] at h

theorem mem_keysK_insertK (k k' : Name) (v : Tree) (kvs : Kvs) :
    k' ∈ keysK (insertK k v kvs) ↔ k' = k ∨ k' ∈ keysK kvs := by
  by_cases h : k' = k
  · simpa [h] using mem_keysK_of_lookupK (lookupK_insertK_same k v kvs)
  · rw [← Decidable.not_iff_not, ← lookupK_none_iff, lookupK_insertK_other _ _ _ _ h, lookupK_none_iff]
    simp [h]

theorem listGet_eq (xs : List Tree) (j : Nat) : listGet xs j = xs[j]? := by
  fun_induction listGet xs j <;> simp_all

theorem listGet_listSet_same (xs : List Tree) (j : Nat) (v : Tree) (h : j < xs.length) :
    listGet (listSet xs j v) j = some v := by
  fun_induction listSet xs j v <;> simp_all [listGet]

theorem listSet_length (xs : List Tree) (j : Nat) (v : Tree) : (listSet xs j v).length = xs.length := by
  fun_induction listSet xs j v <;> simp_all

theorem listGet_lt (xs : List Tree) (j : Nat) (v : Tree) (h : listGet xs j = some v) : j < xs.length := by
  fun_induction listGet xs j <;> simp_all

theorem listSet_same (xs : List Tree) (j : Nat) (v : Tree) (h : listGet xs j = some v) :
    listSet xs j v = xs := by
  fun_induction listSet xs j v <;> simp_all [listGet]

theorem listGet_listSet_other : ∀ (xs : List Tree) (j j' : Nat) (v : Tree), j' ≠ j →
    listGet (listSet xs j v) j' = listGet xs j' := by
  intro xs j j' v h
  fun_induction listSet xs j v generalizing j' <;> cases j' <;> simp_all [listGet]

theorem normIndex_lt {n : Nat} {i : Int} {j : Nat} (h : normIndex n i = some j) : j < n := by
  unfold normIndex at h
  split at h <;> simp at h <;> omega

theorem subscript_ok {t : Tree} {i : Int} {v : Tree} (h : subscript t i = .ok v) :
    ∃ xs j, t = .list xs ∧ normIndex xs.length i = some j ∧ listGet xs j = some v := by
  unfold subscript at h
  repeat' split at h
  all_goals simp_all

theorem subscripts_putSub (is : List Int) (v old new : Tree) (h : subscripts v is = .ok old) :
    subscripts (putSub v is new) is = .ok new := by
  fun_induction putSub v is new generalizing old
  case case4 xs i r new j hj w hg ih => -- the index hits an element
    simp only [subscripts, subscript, hj, hg] at h
    simp [subscripts, subscript, listSet_length, hj, listGet_listSet_same xs j _ (listGet_lt _ _ _ hg), ih _ h]
  all_goals simp_all [subscripts, subscript]

theorem putSub_same (is : List Int) (v w : Tree) (h : subscripts v is = .ok w) : putSub v is w = v := by
  fun_induction putSub v is w <;> simp_all [subscripts, subscript, listSet_same]

/-! ### the text of a segment -/

/-- a plain name or a literal `name[i][j]…` (not an index expression) -/
def LitSeg (m : Name) : Prop := '[' ∈ m → (parseSeg m).isSome = true

theorem beforeBracket_plain (m : Name) (h : '[' ∉ m) : beforeBracket m = m := by
  have := List.takeWhile_append_of_pos (p := (· ≠ '[')) (l₁ := m) (l₂ := [])
    fun x hx => by simpa using fun (e : x = '[') => h (e ▸ hx)
  simpa [beforeBracket] using this

theorem parseSeg_name {m n : Name} {is : List Int} (h : parseSeg m = some (n, is)) : n = beforeBracket m := by
  revert h
  fun_cases parseSeg m <;> simp_all

/-- the literal indices of a segment (none for a plain name) -/
def idxOf (m : Name) : List Int := if '[' ∈ m then ((parseSeg m).map (·.2)).getD [] else []

theorem segGet_lit {m : Name} (hlit : LitSeg m) (kvs : Kvs) :
    segGet kvs m = match lookupK (beforeBracket m) kvs with
      | none => .error (if '[' ∈ m then .name else .key)
      | some v => subscripts v (idxOf m) := by
  unfold segGet idxOf
  split
  · rename_i hb
    obtain ⟨⟨n, is⟩, hp⟩ := Option.isSome_iff_exists.mp (hlit hb)
    simp only [evalSeg, hp, Option.map_some, Option.getD_some, ← parseSeg_name hp]
    cases lookupK n kvs <;> rfl
  · rename_i hb
    rw [beforeBracket_plain m hb]
    cases lookupK m kvs <;> rfl

theorem segPut_lit {m : Name} (hlit : LitSeg m) (kvs : Kvs) (new : Tree) :
    segPut kvs m new = match lookupK (beforeBracket m) kvs with
      | none => kvs
      | some v => insertK (beforeBracket m) (putSub v (idxOf m) new) kvs := by
  unfold segPut idxOf
  split
  · rename_i hb
    obtain ⟨⟨n, is⟩, hp⟩ := Option.isSome_iff_exists.mp (hlit hb)
    simp only [hp, Option.map_some, Option.getD_some, ← parseSeg_name hp]
    cases lookupK n kvs <;> rfl
  · rename_i hb
    rw [beforeBracket_plain m hb, replaceK]
    cases lookupK m kvs <;> rfl

theorem segGet_segPut (kvs : Kvs) (m : Name) (old new : Tree) (hlit : LitSeg m)
    (h : segGet kvs m = .ok old) : segGet (segPut kvs m new) m = .ok new := by
  rw [segGet_lit hlit] at h ⊢
  rw [segPut_lit hlit]
  cases hl : lookupK (beforeBracket m) kvs with
  | none => simp [hl] at h
  | some v =>
    simp only [hl, lookupK_insertK_same] at h ⊢
    exact subscripts_putSub _ v old new h

theorem segPut_same (kvs : Kvs) (m : Name) (v : Tree) (hlit : LitSeg m) (h : segGet kvs m = .ok v) :
    segPut kvs m v = kvs := by
  rw [segGet_lit hlit] at h
  rw [segPut_lit hlit]
  cases hl : lookupK (beforeBracket m) kvs with
  | none => rfl
  | some w =>
    simp only [hl] at h ⊢
    rw [putSub_same _ w v h, insertK_same_val _ _ _ hl]

/-- a segment as the paths of the property have them: a non-empty plain name, or a literal
`name[i][j]…` -/
def GoodSeg (m : Name) : Bool :=
  m != [] && !(decide ('.' ∈ m)) &&
    (!(decide ('[' ∈ m)) || ((parseSeg m).isSome && m.getLast? == some ']' &&
      (match parseFinalIdx (finalIdxText m) with | .oom => false | _ => true)))

theorem goodSeg_bracket {m : Name} (h : GoodSeg m = true) (hb : '[' ∈ m) :
    (parseSeg m).isSome = true ∧ m.getLast? = some ']' ∧ parseFinalIdx (finalIdxText m) ≠ .oom := by
  simp only [GoodSeg, hb, decide_true, Bool.not_true, Bool.false_or, Bool.and_eq_true, beq_iff_eq] at h
  refine ⟨h.2.1.1, h.2.1.2, fun e => ?_⟩
  simp [e] at h

theorem goodSeg_lit {m : Name} (h : GoodSeg m = true) : LitSeg m :=
  fun hb => (goodSeg_bracket h hb).1

theorem goodSeg_ne {m : Name} (h : GoodSeg m = true) : m ≠ [] := by
  rintro rfl
  simp [GoodSeg] at h

theorem goodSeg_nodot {m : Name} (h : GoodSeg m = true) : '.' ∉ m := by
  intro hd
  simp [GoodSeg, hd] at h

theorem not_mem_of_all {α} {p : α → Bool} {l : List α} (h : l.all p = true) {c : α} (hc : p c = false) : c ∉ l :=
  fun hm => by simp [List.all_eq_true.mp h c hm] at hc

theorem parseInt_no_close (s : Name) (i : Int) (h : parseInt s = some i) : ']' ∉ s := by
  revert h
  fun_cases parseInt s
  case case2 neg c r hd _ hs => -- the digits are accepted
    have hno : ']' ∉ c :: r := not_mem_of_all hd.1 (by decide)
    split at hs <;> simp_all
  all_goals simp

/-- a text is split at the first occurrence of `c` -/
theorem span_ne {α} [DecidableEq α] (c : α) (r a : List α) (h : c ∉ a) :
    (a ++ c :: r).takeWhile (· ≠ c) = a ∧ (a ++ c :: r).dropWhile (· ≠ c) = c :: r := by
  have ha : ∀ x ∈ a, decide (x ≠ c) = true := fun x hx => decide_eq_true fun e => h (e ▸ hx)
  rw [List.takeWhile_append_of_pos ha, List.dropWhile_append_of_pos ha, List.takeWhile_cons_of_neg (by simp),
    List.dropWhile_cons_of_neg (by simp), List.append_nil]
  exact ⟨rfl, rfl⟩

theorem dropWhile_subset {α} (p : α → Bool) : ∀ (l : List α) (x : α), x ∈ l.dropWhile p → x ∈ l :=
  fun _ _ h => (List.dropWhile_sublist p).subset h

theorem parseIdx_no_close (s : Name) (i : Int) (h : parseIdx s = some i) : ']' ∉ s := by
  intro hm
  rw [← List.takeWhile_append_dropWhile (p := (· = ' ')) (l := s), List.mem_append] at hm
  rcases hm with hm | hm
  · simpa using List.all_eq_true.mp List.all_takeWhile _ hm
  · exact parseInt_no_close _ _ h hm

theorem parseFinalIdx_lit (t : Name) (i : Int) (h : parseFinalIdx t = .lit i) : parseIdx t = some i := by
  revert h
  fun_cases parseFinalIdx t <;> simp_all

theorem parseGroups_single (idx : Name) (i : Int) (n : Nat) (h : parseIdx idx = some i) :
    parseGroups (n + 2) ('[' :: (idx ++ [']'])) = some [i] := by
  obtain ⟨ht, hd⟩ := span_ne ']' [] idx (parseIdx_no_close _ _ h)
  simp only [parseGroups, if_true, ht, hd, h]

theorem parseSeg_final (m n : Name) (is : List Int) (i : Int)
    (hp : parseSeg m = some (n, is)) (hl : m.getLast? = some ']')
    (hi : parseIdx (finalIdxText m) = some i) :
    n = beforeBracket m ∧ is = [i] := by
  unfold parseSeg at hp
  split at hp
  · rename_i hcond
    simp only [Option.map_eq_some_iff, Prod.mk.injEq] at hp
    obtain ⟨is', hg, hn, rfl⟩ := hp
    refine ⟨hn.symm, ?_⟩
    -- `fromBracket m` is `[`, the text of the final index, `]`
    have hfb : fromBracket m = '[' :: (finalIdxText m ++ [']']) := by
      have hm : m = beforeBracket m ++ fromBracket m := (List.takeWhile_append_dropWhile ..).symm
      unfold finalIdxText
      cases hfb : fromBracket m with
      | nil => exact absurd hfb hcond.2
      | cons c body =>
        have hc : c = '[' := by
          have := List.head?_dropWhile_not (· ≠ '[') m
          rw [show m.dropWhile (· ≠ '[') = c :: body from hfb] at this
          simpa using this
        rw [hm, hfb, List.getLast?_append] at hl
        clear hm
        rcases List.eq_nil_or_concat body with rfl | ⟨idx, c', rfl⟩
        · simp_all
        · rw [List.concat_eq_append, ← List.cons_append, List.getLast?_append] at hl
          simp_all
    rw [hfb] at hg
    exact Option.some.inj (hg.symm.trans (parseGroups_single _ i _ hi))
  · simp at hp


/-! ### the ways an assignment goes -/

theorem restTruthy_false {rest : List Name} {fin : Option Err} (h : ¬ restTruthy rest fin = true)
    (hg : ∀ m ∈ rest, GoodSeg m = true) : rest = [] ∧ fin = none := by
  cases rest with
  | nil => simpa [restTruthy] using h
  | cons a r => simp [restTruthy, goodSeg_ne (hg a (by simp))] at h

theorem restTruthy_ne {rest : List Name} (h : restTruthy rest none = true) : rest ≠ [] := by
  rintro rfl
  simp [restTruthy] at h

/-- `setK` as its callers see it: it fails and leaves the level alone; or descends into the level `m`
denotes, or into a new level `m`; or, at the last segment, assigns a list element or a plain key.
`down` covers two branches of `setK`: a bracketed `m` that evaluates to a level, and a plain `m` that is one (there
`segPut` is `insertK`).  In `elem` the index `i` is the literal one, or (`.oom`) the value of an index expression;
the link to that expression is not kept, and users that need `i` rule `.oom` out through `GoodSeg`. -/
theorem setK_cases (cfg : Cfg) (fin : Option Err) (cv : Except Err Tree)
    {motive : Kvs → List Name → Kvs × Option Err → Prop}
    (fail : ∀ kvs segs e, motive kvs segs (kvs, some e))
    (nil : fin = none → ∀ kvs, motive kvs [] (kvs, none))
    (down : ∀ kvs m rest sub, restTruthy rest fin = true → segGet kvs m = .ok (.node sub) →
      '[' ∈ m ∨ (cfg.fixReserved && isReserved cfg m) = false →
      motive sub rest (setK cfg sub rest fin cv) →
      motive kvs (m :: rest) (segPut kvs m (.node (setK cfg sub rest fin cv).1), (setK cfg sub rest fin cv).2))
    (new : ∀ kvs m rest, restTruthy rest fin = true → '[' ∉ m → lookupK m kvs = none →
      (cfg.fixReserved && isReserved cfg m) = false → motive [] rest (setK cfg [] rest fin cv) →
      motive kvs (m :: rest) (insertK m (.node (setK cfg [] rest fin cv).1) kvs, (setK cfg [] rest fin cv).2))
    (elem : ∀ kvs m rest tv i xs j, cv = .ok tv → ¬ restTruthy rest fin = true → '[' ∈ m →
      m.getLast? = some ']' →
      parseFinalIdx (finalIdxText m) = .lit i ∨ parseFinalIdx (finalIdxText m) = .oom →
      lookupK (beforeBracket m) kvs = some (.list xs) → normIndex xs.length i = some j →
      motive kvs (m :: rest) (insertK (beforeBracket m) (.list (listSet xs j tv)) kvs, none))
    (plain : ∀ kvs m rest tv, cv = .ok tv → ¬ restTruthy rest fin = true →
      ¬ ('[' ∈ m ∧ m.getLast? = some ']') → ¬ isReserved cfg m = true →
      motive kvs (m :: rest) (insertK m tv kvs, none))
    (kvs : Kvs) (segs : List Name) : motive kvs segs (setK cfg kvs segs fin cv) := by
  fun_induction setK cfg kvs segs fin cv
  all_goals try exact fail ..
  case case2 => exact nil rfl _
  case case4 kvs m rest fin cv hr hb sub hev sub' e hs ih => -- bracketed `m` denotes a level
    have := down kvs m rest sub hr (by simp [segGet, hb, hev]) (.inl hb) (ih nil down new elem plain)
    rwa [hs] at this
  case case7 kvs m rest fin cv hr hb hres hl sub' e hs ih => -- plain `m`, absent
    have := new kvs m rest hr hb hl (by simpa using hres) (ih nil down new elem plain)
    rwa [hs] at this
  case case8 kvs m rest fin cv hr hb hres sub hl sub' e hs ih => -- plain `m`, an existing level
    have := down kvs m rest sub hr (by simp [segGet, hb, hl]) (.inr (by simpa using hres))
      (ih nil down new elem plain)
    rw [hs] at this
    simpa [segPut, hb, replaceK, hl] using this
  case case13 kvs m rest fin hr v hb hpf _ _ n _ => -- last segment, evaluated index
    fun_cases setIndexed kvs (beforeBracket m) n v
    all_goals try exact fail ..
    -- the entry is a list and the index is in range
    exact elem _ _ _ _ n _ _ rfl hr hb.1 hb.2 (.inr hpf) ‹_› ‹_›
  case case18 kvs m rest fin hr v hb i hpf xs hl j hj => -- last segment, literal index
    exact elem _ _ _ _ i _ _ rfl hr hb.1 hb.2 (.inl hpf) hl hj
  case case21 kvs m rest fin hr v hb hres => -- last segment, plain key
    exact plain _ _ _ _ rfl hr hb hres

/-- an assignment that succeeds had a value to store, and looking up the path just assigned returns it -/
theorem getK_setK_same (cfg : Cfg) (kvs : Kvs) (segs : List Name) (cv : Except Err Tree) (kvs' : Kvs)
    (hgood : ∀ m ∈ segs, GoodSeg m = true) (hne : segs ≠ [])
    (hset : setK cfg kvs segs none cv = (kvs', none)) : ∃ tv, cv = .ok tv ∧ getK kvs' segs none = .ok tv := by
  have := setK_cases cfg none cv (motive := fun kvs segs r => (∀ m ∈ segs, GoodSeg m = true) → segs ≠ [] →
    r.2 = none → ∃ tv, cv = .ok tv ∧ getK r.1 segs none = .ok tv) ?_ ?_ ?_ ?_ ?_ ?_ kvs segs hgood hne
  · rw [hset] at this; exact this rfl
  · intro _ _ _ _ _ h; simp at h
  · intro _ _ _ h; exact absurd rfl h
  · intro kvs m rest sub hr hsg _ ih hgood _ he
    have hrest := restTruthy_ne hr
    obtain ⟨tv, hcv, hg⟩ := ih (List.forall_mem_cons.mp hgood).2 hrest he
    refine ⟨tv, hcv, ?_⟩
    rw [getK, segGet_segPut kvs m _ _ (goodSeg_lit (hgood m (by simp))) hsg]
    simp [hrest, hg]
  · intro kvs m rest hr hb hl _ ih hgood _ he
    have hrest := restTruthy_ne hr
    obtain ⟨tv, hcv, hg⟩ := ih (List.forall_mem_cons.mp hgood).2 hrest he
    refine ⟨tv, hcv, ?_⟩
    rw [getK]
    simp [segGet, hb, lookupK_insertK_same, hrest, hg]
  · intro kvs m rest tv i xs j hcv hr hb hlast hpf hl hj hgood _ _
    refine ⟨tv, hcv, ?_⟩
    have hrest := (restTruthy_false hr (List.forall_mem_cons.mp hgood).2).1
    obtain ⟨hps, _, hoom⟩ := goodSeg_bracket (hgood m (by simp)) hb
    obtain ⟨⟨n, is⟩, hp⟩ := Option.isSome_iff_exists.mp hps
    obtain ⟨rfl, rfl⟩ := parseSeg_final m n is i hp hlast (parseFinalIdx_lit _ _ (hpf.resolve_right hoom))
    rw [getK]
    simp only [segGet, hb, if_true, evalSeg, hp, lookupK_insertK_same, subscripts, subscript,
      listSet_length, hj, listGet_listSet_same xs j tv (normIndex_lt hj), hrest, and_self]
  · intro kvs m rest tv hcv hr hb _ hgood _ _
    refine ⟨tv, hcv, ?_⟩
    have hrest := (restTruthy_false hr (List.forall_mem_cons.mp hgood).2).1
    have hb' : '[' ∉ m := fun h => hb ⟨h, (goodSeg_bracket (hgood m (by simp)) h).2.1⟩
    rw [getK]
    simp [segGet, hb', lookupK_insertK_same, hrest]

theorem chain_single (fixed : Bool) (m : Name) (h : '.' ∉ m) : chain fixed m = ⟨[m], none⟩ := by
  simp [chain, chainF, step, h]

/-- `self[mine]` for a segment without a dot is the plain segment lookup -/
theorem getTop_nodot (cfg : Cfg) (kvs : Kvs) (m : Name) (h : '.' ∉ m) :
    getTop cfg kvs m = segGet kvs m := by
  simp only [getTop, chain_single _ _ h, getK]
  cases segGet kvs m <;> simp

/-- a successful lookup seen from its first segment: the path ends there, or the segment denotes a level
in which the lookup goes on -/
theorem getK_cons_ok {kvs : Kvs} {m : Name} {rest : List Name} {v : Tree}
    (h : getK kvs (m :: rest) none = .ok v) :
    (rest = [] ∧ segGet kvs m = .ok v) ∨
      (rest ≠ [] ∧ ∃ s, segGet kvs m = .ok (.node s) ∧ getK s rest none = .ok v) := by
  rw [getK] at h
  cases hs : segGet kvs m with
  | error e => simp [hs] at h
  | ok target =>
    by_cases hrest : rest = []
    · simp_all
    · cases target <;> simp_all

/-- two paths that part ways at an entry of some level -/
inductive Indep : List Name → List Name → Prop
  | head {m m' : Name} {ps qs : List Name} : beforeBracket m ≠ beforeBracket m' → Indep (m :: ps) (m' :: qs)
  | tail {m : Name} {ps qs : List Name} : Indep ps qs → Indep (m :: ps) (m :: qs)

theorem Indep.ne_nil {p q : List Name} (h : Indep p q) : p ≠ [] ∧ q ≠ [] := by
  cases h <;> simp

theorem getK_nil_not_ok (q : List Name) (hq : q ≠ []) (hg : ∀ m ∈ q, GoodSeg m = true) (v : Tree) :
    getK [] q none ≠ .ok v := by
  cases q with
  | nil => exact absurd rfl hq
  | cons a r => simp [getK, segGet_lit (goodSeg_lit (hg a (by simp))), lookupK]

/-- an assignment along `p` does not disturb a lookup along an independent `q`, whatever it does -/
theorem getK_setK_indep (cfg : Cfg) {p q : List Name} (h : Indep p q) (kvs : Kvs) (fin : Option Err)
    (cv : Except Err Tree) (v : Tree) (hp : ∀ m ∈ p, GoodSeg m = true) (hq : ∀ m ∈ q, GoodSeg m = true) :
    getK (setK cfg kvs p fin cv).1 q none = .ok v ↔ getK kvs q none = .ok v := by
  -- the paths part at the head: the assignment touches only the entry its first segment is based on
  have head : ∀ {kvs : Kvs} {k m' : Name} {qs : List Name} {x : Tree}, GoodSeg m' = true →
      beforeBracket m' ≠ k →
      (getK (insertK k x kvs) (m' :: qs) none = .ok v ↔ getK kvs (m' :: qs) none = .ok v) := by
    intro kvs k m' qs x hg hne
    rw [getK, getK, segGet_lit (goodSeg_lit hg), segGet_lit (goodSeg_lit hg), lookupK_insertK_other _ _ _ _ hne]
  refine setK_cases cfg fin cv (motive := fun kvs p r => ∀ q, Indep p q → (∀ m ∈ p, GoodSeg m = true) →
    (∀ m ∈ q, GoodSeg m = true) → (getK r.1 q none = .ok v ↔ getK kvs q none = .ok v))
    ?_ ?_ ?_ ?_ ?_ ?_ kvs p q h hp hq
  · intros; rfl
  · intro _ _ _ h; cases h
  · intro kvs m rest sub _ hsg _ ih q hi hp hq
    have hlit := goodSeg_lit (hp m (by simp))
    cases hi with
    | head hne =>
      rw [segPut_lit hlit]
      split
      · rfl
      · exact head (hq _ (by simp)) (Ne.symm hne)
    | @tail _ _ qs hi =>
      rw [getK, getK, segGet_segPut kvs m _ _ hlit hsg, hsg]
      simp only [hi.ne_nil.2, false_and, if_false]
      exact ih qs hi (List.forall_mem_cons.mp hp).2 (List.forall_mem_cons.mp hq).2
  · intro kvs m rest _ hb hl _ ih q hi hp hq
    cases hi with
    | head hne => exact head (hq _ (by simp)) (beforeBracket_plain m hb ▸ Ne.symm hne)
    | @tail _ _ qs hi =>
      have hqs : ∀ x ∈ qs, GoodSeg x = true := (List.forall_mem_cons.mp hq).2
      rw [getK, getK]
      simp only [segGet, hb, if_false, lookupK_insertK_same, hl, hi.ne_nil.2, false_and]
      -- the lookup fails in the new level as it failed for want of `m`
      exact ⟨fun hg => absurd ((ih qs hi (List.forall_mem_cons.mp hp).2 hqs).mp hg)
        (getK_nil_not_ok qs hi.ne_nil.2 hqs v), fun hg => by simp at hg⟩
  · intro kvs m rest tv i xs j _ hr _ _ _ _ _ q hi hp hq
    cases hi with
    | head hne => exact head (hq _ (by simp)) (Ne.symm hne)
    | tail hi =>
      exact absurd (restTruthy_false hr (List.forall_mem_cons.mp hp).2).1 hi.ne_nil.1
  · intro kvs m rest tv _ hr hb _ q hi hp hq
    cases hi with
    | head hne =>
      have hb' : '[' ∉ m := fun h => hb ⟨h, (goodSeg_bracket (hp m (by simp)) h).2.1⟩
      exact head (hq _ (by simp)) (beforeBracket_plain m hb' ▸ Ne.symm hne)
    | tail hi =>
      exact absurd (restTruthy_false hr (List.forall_mem_cons.mp hp).2).1 hi.ne_nil.1

theorem setK_reserved (cfg : Cfg) (hfix : cfg.fixReserved = true) (kvs : Kvs) (segs : List Name)
    (fin : Option Err) (cv : Except Err Tree) (hgood : ∀ m ∈ segs, GoodSeg m = true)
    (hres : ∃ m ∈ segs, '[' ∉ m ∧ isReserved cfg m = true) : (setK cfg kvs segs fin cv).2 ≠ none := by
  -- at the last level `rest` is empty, so the reserved plain component is `m` itself
  have last : ∀ {m rest}, ¬ restTruthy rest fin = true → (∀ x ∈ m :: rest, GoodSeg x = true) →
      (∃ x ∈ m :: rest, '[' ∉ x ∧ isReserved cfg x = true) → '[' ∉ m ∧ isReserved cfg m = true := by
    intro m rest hr hg hx
    obtain ⟨rfl, _⟩ := restTruthy_false hr (List.forall_mem_cons.mp hg).2
    simpa using hx
  refine setK_cases cfg fin cv (motive := fun _ segs r => (∀ m ∈ segs, GoodSeg m = true) →
    (∃ m ∈ segs, '[' ∉ m ∧ isReserved cfg m = true) → r.2 ≠ none) ?_ ?_ ?_ ?_ ?_ ?_ kvs segs hgood hres
  · intros; simp
  · intro _ _ _ h; simp at h
  · intro kvs m rest sub _ _ hor ih hgood hres
    have hm : ¬ ('[' ∉ m ∧ isReserved cfg m = true) := fun h => hor.elim h.1 fun hn => by simp [hfix, h.2] at hn
    exact ih (List.forall_mem_cons.mp hgood).2
      (by simpa only [List.mem_cons, exists_eq_or_imp, hm, false_or] using hres)
  · intro kvs m rest _ _ _ hnr ih hgood hres
    have hm : ¬ ('[' ∉ m ∧ isReserved cfg m = true) := fun h => by simp [hfix, h.2] at hnr
    exact ih (List.forall_mem_cons.mp hgood).2
      (by simpa only [List.mem_cons, exists_eq_or_imp, hm, false_or] using hres)
  · intro _ _ _ _ _ _ _ _ hr hb _ _ _ _ hgood hres; exact absurd hb (last hr hgood hres).1
  · intro _ _ _ _ _ hr _ hnr hgood hres; exact absurd (last hr hgood hres).2 hnr

/-! ### the invariant: every level is a map with `P` keys -/

mutual
/-- well-formed trees: every level is a map (no key twice) whose keys satisfy `P`, recursively.
`wfT P (.node kvs)` is `wfK P kvs` and `wfT P (.list xs)` is `wfL P xs` by definition: the proofs pass one for the other. -/
def wfT (P : Name → Bool) : Tree → Bool
  | .leaf _ => true
  | .node kvs => wfK P kvs
  | .list xs => wfL P xs
def wfK (P : Name → Bool) : Kvs → Bool
  | [] => true
  | (k, v) :: r => P k && (lookupK k r).isNone && wfT P v && wfK P r
def wfL (P : Name → Bool) : List Tree → Bool
  | [] => true
  | x :: r => wfT P x && wfL P r
end

variable {P : Name → Bool}

theorem wfK_cons {k : Name} {v : Tree} {r : Kvs} :
    wfK P ((k, v) :: r) = true ↔ P k = true ∧ lookupK k r = none ∧ wfT P v = true ∧ wfK P r = true := by
  simp [wfK, and_assoc]

theorem wfK_lookup {kvs : Kvs} {k : Name} {v : Tree} (h : wfK P kvs = true) (hl : lookupK k kvs = some v) :
    P k = true ∧ wfT P v = true := by
  fun_induction lookupK k kvs <;> simp_all [wfK]

theorem wfK_insertK {kvs : Kvs} {k : Name} {v : Tree} (h : wfK P kvs = true) (hk : P k = true)
    (hv : wfT P v = true) : wfK P (insertK k v kvs) = true := by
  fun_induction insertK k v kvs
  case case3 hne ih => -- the key sits further down
    simp_all [wfK, lookupK_insertK_other _ _ _ _ (Ne.symm hne)]
  all_goals simp_all [wfK, lookupK]

theorem wfK_eraseK {kvs : Kvs} {k : Name} (h : wfK P kvs = true) : wfK P (eraseK k kvs) = true := by
  fun_induction eraseK k kvs
  case case3 hne ih => -- the key sits further down
    simp_all [wfK, lookupK_eraseK_other _ _ _ (Ne.symm hne)]
  all_goals simp_all [wfK]

theorem lookupK_eraseK_same {kvs : Kvs} (k : Name) (h : wfK P kvs = true) : lookupK k (eraseK k kvs) = none := by
  fun_induction eraseK k kvs <;> simp_all [wfK, lookupK]

theorem wfK_nodup {kvs : Kvs} (h : wfK P kvs = true) : (keysK kvs).Nodup := by
  induction kvs with
  | nil => simp [keysK]
  | cons hd tl ih =>
    obtain ⟨k', v'⟩ := hd
    obtain ⟨_, hn, _, hr⟩ := wfK_cons.mp h
    simp only [keysK, List.map_cons, List.nodup_cons]
    exact ⟨(lookupK_none_iff _ _).mp hn, ih hr⟩

/-- in a well-formed level the entries are what lookup finds -/
theorem lookupK_iff_mem {kvs : Kvs} (h : wfK P kvs = true) {k : Name} {v : Tree} :
    lookupK k kvs = some v ↔ (k, v) ∈ kvs := by
  induction kvs with
  | nil => simp [lookupK]
  | cons hd r ih =>
    obtain ⟨k', v'⟩ := hd
    obtain ⟨_, hn, _, hr⟩ := wfK_cons.mp h
    by_cases hk : k = k'
    · subst hk
      have : (k, v) ∉ r := fun hm => (lookupK_none_iff k r).mp hn (List.mem_map_of_mem (f := (·.1)) hm)
      simp [lookupK, this, eq_comm]
    · simp [lookupK, hk, ih hr]

theorem wfK_mem {kvs : Kvs} (h : wfK P kvs = true) (p : Name × Tree) (hp : p ∈ kvs) : P p.1 = true :=
  (wfK_lookup h ((lookupK_iff_mem h).mpr hp)).1

theorem wfL_listGet {xs : List Tree} {j : Nat} {v : Tree} (hw : wfL P xs = true)
    (h : listGet xs j = some v) : wfT P v = true := by
  fun_induction listGet xs j <;> simp_all [wfL]

theorem wfL_listSet {xs : List Tree} {j : Nat} {v : Tree} (hw : wfL P xs = true) (hv : wfT P v = true) :
    wfL P (listSet xs j v) = true := by
  fun_induction listSet xs j v <;> simp_all [wfL]

theorem wfT_subscripts {is : List Int} {v w : Tree} (hv : wfT P v = true) (h : subscripts v is = .ok w) :
    wfT P w = true := by
  fun_induction subscripts v is
  · cases h; exact hv
  · simp at h
  · rename_i u hu ih
    obtain ⟨xs, j, rfl, _, hg⟩ := subscript_ok hu
    exact ih (wfL_listGet hv hg) h

theorem wfT_putSub {is : List Int} {v new : Tree} (hv : wfT P v = true) (hn : wfT P new = true) :
    wfT P (putSub v is new) = true := by
  fun_induction putSub v is new
  case case4 hu ih => exact wfL_listSet hv (ih (wfL_listGet hv hu) hn) -- an element is replaced
  all_goals assumption

theorem wfL_append {xs ys : List Tree} (hx : wfL P xs = true) (hy : wfL P ys = true) :
    wfL P (xs ++ ys) = true := by
  induction xs <;> simp_all [wfL]

theorem wfT_evalEx {kvs : Kvs} (h : wfK P kvs = true) (ex : Ex) (v : Tree)
    (hv : evalEx kvs ex = .ok v) : wfT P v = true := by
  fun_induction evalEx kvs ex generalizing v
  all_goals try (simp at hv; done) -- the failing evaluations
  case case1 | case12 | case16 | case21 => cases hv; rfl -- literal, negation, sum, difference: an int
  case case3 hl => cases hv; exact (wfK_lookup h hl).2 -- a name
  case case6 ve he vi _ ihe _ => -- `e[i]`
    revert hv
    fun_cases subscriptV ve vi
    · intro hv -- a list subscripted by an int
      obtain ⟨_, j, ⟨⟩, _, hg⟩ := subscript_ok hv
      exact wfL_listGet (ihe _ he) hg
    all_goals simp
  case case9 sub he _ hl ih => -- `e.attr`
    cases hv
    exact (wfK_lookup (ih _ he) hl).2
  case case17 ha hb iha ihb => -- two lists concatenated
    cases hv
    exact wfL_append (iha _ ha) (ihb _ hb)

theorem wfT_putPlace (p : List PStep) (t new : Tree) (ht : wfT P t = true) (hn : wfT P new = true) :
    wfT P (putPlace t p new) = true := by
  fun_induction putPlace t p new
  case case2 hl ih => exact wfK_insertK ht (wfK_lookup ht hl).1 (ih (wfK_lookup ht hl).2 hn) -- a key step
  case case4 hl ih => exact wfL_listSet ht (ih (wfL_listGet ht hl) hn) -- an index step
  all_goals assumption

theorem wfT_segGet {kvs : Kvs} {m : Name} {v : Tree} (h : wfK P kvs = true) (hg : segGet kvs m = .ok v) :
    wfT P v = true := by
  revert hg
  fun_cases segGet kvs m
  · fun_cases evalSeg kvs m -- a bracketed segment: `eval`
    · simp -- outside the model
    · exact wfT_evalEx h _ _ -- an index expression
    · simp -- a literal index on an absent name
    · exact wfT_subscripts (wfK_lookup h ‹_›).2 -- literal indices
  · simp -- a plain name, absent
  · rintro ⟨⟩ -- a plain name: its entry
    exact (wfK_lookup h ‹_›).2

theorem wfK_segPut {kvs : Kvs} {m : Name} {new : Tree} (h : wfK P kvs = true)
    (hn : wfT P new = true) : wfK P (segPut kvs m new) = true := by
  fun_cases segPut kvs m new
  case case3 p _ => -- index expression: `putPlace`
    have := wfT_putPlace p (.node kvs) new h hn
    cases hpp : putPlace (.node kvs) p new <;> simp_all [kvsOf, wfT, wfK]
  case case5 hl => -- literal indices: `putSub`
    exact wfK_insertK h (wfK_lookup h hl).1 (wfT_putSub (wfK_lookup h hl).2 hn)
  case case6 => -- plain name: `replaceK`
    unfold replaceK
    split
    · obtain ⟨w, hw⟩ := Option.isSome_iff_exists.mp ‹_›
      exact wfK_insertK h (wfK_lookup h hw).1 hn
    · exact h
  all_goals exact h


/-- every raw key an assignment along `segs` may create satisfies `P` -/
def KeysOK (P : Name → Bool) (cfg : Cfg) (segs : List Name) : Prop :=
  ∀ m ∈ segs, isReserved cfg m = false → ('[' ∉ m ∨ m.getLast? ≠ some ']') → P m = true

/-- `hfix`: only the code that refuses reserved names for intermediate levels keeps the invariant; `KeysOK`
says nothing of reserved names, and with `fixReserved = false` a reserved name becomes a level. -/
theorem wfK_setK (cfg : Cfg) (hfix : cfg.fixReserved = true) (kvs : Kvs) (segs : List Name)
    (fin : Option Err) (cv : Except Err Tree) (hw : wfK P kvs = true)
    (hcv : ∀ tv, cv = .ok tv → wfT P tv = true) (hP : KeysOK P cfg segs) :
    wfK P (setK cfg kvs segs fin cv).1 = true := by
  refine setK_cases cfg fin cv (motive := fun kvs segs r => wfK P kvs = true → KeysOK P cfg segs →
    wfK P r.1 = true) ?_ ?_ ?_ ?_ ?_ ?_ kvs segs hw hP
  · intro _ _ _ hw _; exact hw
  · intro _ _ hw _; exact hw
  · intro kvs m rest sub _ hsg _ ih hw hP
    exact wfK_segPut hw (ih (wfT_segGet hw hsg) (List.forall_mem_cons.mp hP).2)
  · intro kvs m rest _ hb _ hres ih hw hP
    exact wfK_insertK hw (hP m (by simp) (by simpa [hfix] using hres) (.inl hb))
      (ih rfl (List.forall_mem_cons.mp hP).2)
  · intro kvs m rest tv i xs j hc _ _ _ _ hl _ hw _
    have hsub := wfK_lookup hw hl
    exact wfK_insertK hw hsub.1 (wfL_listSet hsub.2 (hcv tv hc))
  · intro kvs m rest tv hc _ hb hres hw hP
    refine wfK_insertK hw (hP m (by simp) (by simpa using hres) ?_) (hcv tv hc)
    by_cases h : '[' ∈ m
    · exact .inr fun hl => hb ⟨h, hl⟩
    · exact .inl h

mutual
/-- a value whose stored parts are well-formed and whose plain-dict keys create only `P` keys -/
def valOK (P : Name → Bool) (cfg : Cfg) : PVal → Prop
  | .tree t => wfT P t = true
  | .pdict items => itemsOK P cfg items
def itemsOK (P : Name → Bool) (cfg : Cfg) : List (Name × PVal) → Prop
  | [] => True
  | (k, v) :: r => KeysOK P cfg (chain cfg.fixResolve k).segs ∧ valOK P cfg v ∧ itemsOK P cfg r
end

mutual
theorem conv_wf (cfg : Cfg) (hfix : cfg.fixReserved = true) :
    ∀ (v : PVal) (t : Tree), valOK P cfg v → conv cfg v = .ok t → wfT P t = true
  | .tree _, _, hv, h => by cases h; exact hv
  | .pdict items, t, hv, h => convItems_wf cfg hfix items [] t hv rfl h
theorem convItems_wf (cfg : Cfg) (hfix : cfg.fixReserved = true) :
    ∀ (items : List (Name × PVal)) (acc : Kvs) (t : Tree), itemsOK P cfg items → wfK P acc = true →
      convItems cfg items acc = .ok t → wfT P t = true
  | [], acc, t, _, ha, h => by
    simp only [convItems, Except.ok.injEq] at h; subst h; exact ha
  | (k, v) :: r, acc, t, hi, ha, h => by
    simp only [itemsOK] at hi
    simp only [convItems] at h
    split at h
    · simp at h
    · rename_i acc' hs
      have hw := wfK_setK cfg hfix acc _ (chain cfg.fixResolve k).fin _ ha
        (fun tv => conv_wf cfg hfix v tv hi.2.1) hi.1
      rw [hs] at hw
      exact convItems_wf cfg hfix r acc' t hi.2.2 hw h
end


theorem wfT_getK (segs : List Name) (kvs : Kvs) (fin : Option Err) (v : Tree) (hw : wfK P kvs = true)
    (h : getK kvs segs fin = .ok v) : wfT P v = true := by
  fun_induction getK kvs segs fin
  all_goals try (simp at h; done) -- the failing lookups
  case case2 => cases h; exact hw -- empty path
  case case4 => cases h; exact wfT_segGet hw ‹_› -- last segment
  case case7 ih => -- descend
    have := wfT_segGet hw ‹_›
    exact ih this h

theorem wfK_delK (cfg : Cfg) (kvs : Kvs) (segs : List Name) (fin : Option Err) (hw : wfK P kvs = true) :
    wfK P (delK cfg kvs segs fin).1 = true := by
  fun_induction delK cfg kvs segs fin
  all_goals try exact hw -- the refusals leave the level alone
  case case6 => exact wfK_eraseK hw -- the entry is erased
  case case7 kvs m rest fin _ sub sub' e hs ht ih => -- descend
    have := ih (wfT_getK _ _ _ _ hw ht)
    rw [hs] at this
    exact wfK_segPut hw this

theorem wfK_popK (kvs : Kvs) (segs : List Name) (fin : Option Err) (hasD : Bool) (hw : wfK P kvs = true) :
    wfK P (popK kvs segs fin hasD).1 = true := by
  fun_induction popK kvs segs fin hasD
  all_goals try exact hw -- the refusals leave the level alone
  case case3 => exact wfK_eraseK hw -- the entry is popped
  case case7 kvs m rest fin hasD _ sub hl sub' r hs ih => -- descend
    have hsub := wfK_lookup hw hl
    have := ih hsub.2
    rw [hs] at this
    exact wfK_insertK hw hsub.1 this

/-- a dotdict (a level at the root) that is well-formed -/
def wfRoot (P : Name → Bool) (t : Tree) : Prop := ∃ kvs, t = .node kvs ∧ wfK P kvs = true

theorem wfRoot_setT (cfg : Cfg) (hfix : cfg.fixReserved = true) (t : Tree) (k : Name) (v : PVal)
    (ht : wfRoot P t) (hk : KeysOK P cfg (chain cfg.fixResolve k).segs) (hv : valOK P cfg v) :
    wfRoot P (setT cfg t k v).1 := by
  obtain ⟨kvs, rfl, hw⟩ := ht
  exact ⟨_, rfl, wfK_setK cfg hfix kvs _ _ _ hw (fun tv => conv_wf cfg hfix v tv hv) hk⟩

theorem wfRoot_updateT (cfg : Cfg) (hfix : cfg.fixReserved = true) (items : List (Name × PVal)) (t : Tree)
    (ht : wfRoot P t) (hi : itemsOK P cfg items) : wfRoot P (updateT cfg t items).1 := by
  fun_induction updateT cfg t items
  case case1 => exact ht
  case case2 t k v r t' e hs => -- the assignment of `k` fails: the update stops
    have := wfRoot_setT cfg hfix t k v ht hi.1 hi.2.1
    simp_all
  case case3 t k v r t' hs ih => -- it succeeds: on with the rest
    have := wfRoot_setT cfg hfix t k v ht hi.1 hi.2.1
    simp_all [itemsOK]

/-- an operation all of whose keys and values may only create `P` keys -/
def OpOK (P : Name → Bool) (cfg : Cfg) : Op → Prop
  | .set k v => KeysOK P cfg (chain cfg.fixResolve k).segs ∧ valOK P cfg v
  | .setdefault k v => KeysOK P cfg (chain cfg.fixResolve k).segs ∧ valOK P cfg v
  | .update items => itemsOK P cfg items
  | _ => True

theorem wfRoot_applyOp (cfg : Cfg) (hfix : cfg.fixReserved = true) (t : Tree) (op : Op)
    (ht : wfRoot P t) (hop : OpOK P cfg op) : wfRoot P (applyOp cfg t op) := by
  cases op with
  | set k v => exact wfRoot_setT cfg hfix t k v ht hop.1 hop.2
  | del k => obtain ⟨kvs, rfl, hw⟩ := ht; exact ⟨_, rfl, wfK_delK cfg kvs _ _ hw⟩
  | pop k hasD => obtain ⟨kvs, rfl, hw⟩ := ht; exact ⟨_, rfl, wfK_popK kvs _ _ _ hw⟩
  | setdefault k v => -- the dotdict unchanged, or as the assignment leaves it
    have := wfRoot_setT cfg hfix t k v ht hop.1 hop.2
    simp only [applyOp]
    fun_cases setdefaultT cfg t k v <;> simp_all
  | update items => exact wfRoot_updateT cfg hfix items t ht hop
  | _ => exact ht

theorem wfRoot_run (cfg : Cfg) (hfix : cfg.fixReserved = true) (ops : List Op) (t : Tree)
    (ht : wfRoot P t) (h : ∀ op ∈ ops, OpOK P cfg op) : wfRoot P (run cfg t ops) := by
  induction ops generalizing t with
  | nil => exact ht
  | cons op r ih =>
    exact ih _ (wfRoot_applyOp cfg hfix t op ht (h op (by simp))) (List.forall_mem_cons.mp h).2

/-! ### copies and plain dicts -/

/-- a raw key that the constructor re-inserts unchanged: no dot, no bracket, not reserved -/
def CopyKey (cfg : Cfg) (k : Name) : Bool :=
  !(decide ('.' ∈ k)) && !(decide ('[' ∈ k)) && !(isReserved cfg k)

theorem copyKey_iff {cfg : Cfg} {k : Name} :
    CopyKey cfg k = true ↔ '.' ∉ k ∧ '[' ∉ k ∧ isReserved cfg k = false := by
  simp [CopyKey, and_assoc]

theorem setK_single (cfg : Cfg) (acc : Kvs) (k : Name) (v : Tree) (hk : CopyKey cfg k = true) :
    setK cfg acc [k] none (.ok v) = (insertK k v acc, none) := by
  have h := copyKey_iff.mp hk
  rw [setK]
  simp [restTruthy, h.2.1, h.2.2]

theorem buildK_ok (cfg : Cfg) : ∀ (kvs acc : Kvs), (∀ p ∈ kvs, CopyKey cfg p.1 = true) →
    (keysK (acc ++ kvs)).Nodup → buildK cfg kvs acc = .ok (.node (acc ++ kvs))
  | [], acc, _, _ => by simp [buildK]
  | (k, v) :: r, acc, hk, hn => by
    have hkk := hk (k, v) (by simp)
    have habs : lookupK k acc = none := (lookupK_none_iff k acc).mpr fun hmem => by
      simp only [keysK, List.map_append, List.map_cons] at hn hmem
      exact (List.nodup_append.mp hn).2.2 k hmem k (by simp) rfl
    simp only [buildK, chain_single _ _ (copyKey_iff.mp hkk).1, setK_single cfg acc k v hkk, insertK_absent _ _ _ habs]
    rw [buildK_ok cfg r (acc ++ [(k, v)]) (List.forall_mem_cons.mp hk).2 (by simpa using hn)]
    simp

mutual
theorem copyT_ok (cfg : Cfg) : ∀ (t : Tree), wfT (CopyKey cfg) t = true → copyT cfg t = .ok t
  | .leaf _, _ => rfl
  | .node kvs, h => by
    simp only [copyT, copyVals_ok cfg kvs h]
    simpa using buildK_ok cfg kvs [] (wfK_mem h) (by simpa using wfK_nodup h)
  | .list xs, h => by
    simp only [copyT, copyList_ok cfg xs h]
    rfl
theorem copyVals_ok (cfg : Cfg) : ∀ (kvs : Kvs), wfK (CopyKey cfg) kvs = true → copyVals cfg kvs = .ok kvs
  | [], _ => rfl
  | (k, v) :: r, h => by
    obtain ⟨_, _, h3, h4⟩ := wfK_cons.mp h
    simp [copyVals, copyT_ok cfg v h3, copyVals_ok cfg r h4]
theorem copyList_ok (cfg : Cfg) : ∀ (xs : List Tree), wfL (CopyKey cfg) xs = true → copyList cfg xs = .ok xs
  | [], _ => rfl
  | x :: r, h => by
    simp only [wfL, Bool.and_eq_true] at h
    simp [copyList, copyT_ok cfg x h.1, copyList_ok cfg r h.2]
end

theorem convItems_snoc (cfg : Cfg) : ∀ (its : List (Name × PVal)) (k : Name) (v : PVal) (acc : Kvs) (t : Tree),
    convItems cfg (its ++ [(k, v)]) acc = .ok t →
    ∃ acc' sub, setK cfg acc' (chain cfg.fixResolve k).segs (chain cfg.fixResolve k).fin (conv cfg v) = (sub, none)
      ∧ t = .node sub
  | [], k, v, acc, t, h => by
    simp only [List.nil_append, convItems] at h
    split at h
    · simp at h
    · rename_i sub hs
      simp only [Except.ok.injEq] at h
      exact ⟨acc, sub, hs, h.symm⟩
  | (k0, v0) :: r, k, v, acc, t, h => by
    simp only [List.cons_append, convItems] at h
    split at h
    · simp at h
    · exact convItems_snoc cfg r k v _ t h

theorem convItems_node (cfg : Cfg) (items : List (Name × PVal)) (acc : Kvs) (t : Tree)
    (h : convItems cfg items acc = .ok t) : ∃ kvs, t = .node kvs := by
  rcases List.eq_nil_or_concat items with rfl | ⟨its, ⟨k, v⟩, rfl⟩
  · exact ⟨acc, by simpa [convItems] using h.symm⟩
  · obtain ⟨_, sub, _, ht⟩ := convItems_snoc cfg its k v acc t (by simpa using h)
    exact ⟨sub, ht⟩

end Cpppo.Dotdict
