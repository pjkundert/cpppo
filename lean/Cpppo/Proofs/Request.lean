import Cpppo.Proofs.Fields
import Cpppo.Model.RefCodec
import Cpppo.Model.Server
/-! Client to server: what the reference encoder writes (EPATH, requests, bundles, frames) the server's parsers read back;
at the end the encapsulation frame in the other direction as well. -/
namespace Cpppo.Interop
open Cpppo Cpppo.Logix Cpppo.Fields

theorem strOfBytes_strBytes (s : String) : strOfBytes (strBytes s) = s := by
  unfold strOfBytes strBytes
  simp [List.map_map, Function.comp_def, Char.ofNat_toNat]

/-- the parsed form of a reference segment -/
def segOf : Seg → Srv.PSeg
  | .symbolic s => .sym (strBytes s)
  | .cls n => .cls n
  | .ins n => .ins n
  | .attr n => .attr n
  | .elem n => .elem n
  | .other => .port 0 0   -- never used: `Ref.encSeg .other = none`

theorem encSeg_ne_other {s : Seg} {b : Bytes} (h : Ref.encSeg s = some b) : s ≠ .other := by
  intro hs; subst hs; simp [Ref.encSeg] at h

theorem toSeg_segOf (s : Seg) (h : s ≠ .other) : (segOf s).toSeg = s := by
  cases s <;> simp_all [segOf, Srv.PSeg.toSeg, strOfBytes_strBytes]

theorem encNum_some {t n : Nat} {w : Bool} {b : Bytes} (h : Ref.encNum t n w = some b) :
    n < 256 ∧ b = [t, n] ∨ n < 65536 ∧ b = [t + 1, 0] ++ Bytes.le 2 n
      ∨ w = true ∧ n < 4294967296 ∧ b = [t + 2, 0] ++ Bytes.le 4 n := by
  revert h
  fun_cases Ref.encNum t n w <;> intro h <;> cases h
  · exact .inl ⟨‹_›, rfl⟩                               -- 8-bit
  · exact .inr (.inl ⟨‹_›, rfl⟩)                        -- 16-bit
  · exact .inr (.inr ⟨‹_ ∧ _›.1, ‹_ ∧ _›.2, rfl⟩)      -- 32-bit

theorem encSeg_symbolic {s : String} {b : Bytes} (h : Ref.encSeg (.symbolic s) = some b) :
    (0 < (strBytes s).length ∧ (strBytes s).length < 256 ∧ (strBytes s).all (· < 256) = true) ∧
      b = [0x91, (strBytes s).length] ++ strBytes s ++ (if (strBytes s).length % 2 = 1 then [0] else []) := by
  simp only [Ref.encSeg, Option.ite_none_right_eq_some, Option.some.injEq] at h
  exact ⟨h.1, h.2.symm⟩

theorem encNum_len {t n : Nat} {w : Bool} {b : Bytes} (h : Ref.encNum t n w = some b) :
    2 ≤ b.length ∧ b.length % 2 = 0 := by
  rcases encNum_some h with ⟨_, rfl⟩ | ⟨_, rfl⟩ | ⟨_, _, rfl⟩ <;> simp [Bytes.le_length]

theorem encSeg_len {s : Seg} {b : Bytes} (h : Ref.encSeg s = some b) : 2 ≤ b.length ∧ b.length % 2 = 0 := by
  cases s with
  | symbolic str =>
    obtain ⟨_, rfl⟩ := encSeg_symbolic h
    simp only [List.length_append, List.length_cons, List.length_nil, pad_length]
    omega
  | cls n | ins n | attr n | elem n => exact encNum_len h
  | other => simp [Ref.encSeg] at h

theorem parseSeg_encSeg {s : Seg} {b rest : Bytes} (h : Ref.encSeg s = some b) :
    Srv.parseSeg (b ++ rest) = some (segOf s, rest) := by
  cases s with
  | symbolic str =>
    obtain ⟨_, rfl⟩ := encSeg_symbolic h
    simp only [List.cons_append, List.nil_append, List.append_assoc, Srv.parseSeg, Srv.inKind,
      Generated.iopSegElement, Generated.iopSegClass, Generated.iopSegInstance, Generated.iopSegConnection,
      Generated.iopSegAttribute, Generated.iopSegSymbolic, segOf, Nat.reduceBEq, Nat.reduceAdd, Bool.or_self,
      Bool.and_false, Bool.false_eq_true, ↓reduceIte]
    rw [if_neg (padded_fits _ rest), drop_padded, List.take_left]
  | cls n | ins n | attr n | elem n =>
    -- 8-bit, 16-bit or (element only) 32-bit form
    rcases encNum_some h with ⟨hn, rfl⟩ | ⟨hn, rfl⟩ | ⟨⟨⟩, hn, rfl⟩ <;>
      simp [Srv.parseSeg, Srv.inKind, Srv.logical, Srv.skip1, u1_cons, u_le, hn, Generated.iopSegElement,
        Generated.iopSegClass, Generated.iopSegInstance, Generated.iopSegConnection, Generated.iopSegAttribute, segOf]
  | other => simp [Ref.encSeg] at h

/- Inductions along `Ref.encSegs`: the empty path, then a segment and the rest of the path both encoded (the facts come
in the order `hb` for the rest, `ha` for the segment); where either fails, `h` is absurd. -/
theorem encSegs_even {p : Path} {b : Bytes} (h : Ref.encSegs p = some b) : b.length % 2 = 0 := by
  revert h
  fun_induction Ref.encSegs p generalizing b <;> intro h <;> cases h
  · rfl
  · rename_i hb ha ih
    have := (encSeg_len ha).2
    have := ih hb
    simp only [List.length_append]; omega

/-- one segment at the head of a buffer, the fuel covering the whole buffer -/
theorem parseSegs_step {a rest : Bytes} {s : Srv.PSeg} {segs : List Srv.PSeg} {fuel : Nat} (hne : a ≠ [])
    (hs : Srv.parseSeg (a ++ rest) = some (s, rest)) (hf : (a ++ rest).length ≤ fuel)
    (hr : ∀ f, rest.length ≤ f → Srv.parseSegs f rest = some segs) :
    Srv.parseSegs fuel (a ++ rest) = some (s :: segs) := by
  cases a with
  | nil => exact absurd rfl hne
  | cons x a' =>
    match fuel, hf with
    | f + 1, hf =>
      simp only [List.cons_append] at hs hf ⊢
      simp only [Srv.parseSegs, hs, hr f (by simp at hf; omega)]

theorem parseSegs_encSegs {p : Path} {b : Bytes} (h : Ref.encSegs p = some b) (fuel : Nat)
    (hf : b.length ≤ fuel) : Srv.parseSegs fuel b = some (p.map segOf) := by
  revert h
  fun_induction Ref.encSegs p generalizing b fuel <;> intro h <;> cases h
  · cases fuel <;> rfl
  · rename_i a _ hb ha ih
    have hne : a ≠ [] := by intro h0; have := (encSeg_len ha).1; simp [h0] at this
    exact parseSegs_step hne (parseSeg_encSeg ha) hf (ih · · hb)

theorem toPath_segOf {p : Path} {b : Bytes} (h : Ref.encSegs p = some b) : Srv.toPath (p.map segOf) = p := by
  revert h
  fun_induction Ref.encSegs p generalizing b <;> intro h <;> cases h
  · rfl
  · rename_i hb ha ih
    simp only [Srv.toPath, List.map_cons, List.map_map] at ih ⊢
    rw [toSeg_segOf _ (encSeg_ne_other ha), ih hb]

theorem encEpath_some {p : Path} {e : Bytes} (h : Ref.encEpath p = some e) :
    ∃ b, Ref.encSegs p = some b ∧ b.length < 512 ∧ e = (b.length / 2) :: b := by
  revert h
  fun_cases Ref.encEpath p <;> intro h <;> cases h
  exact ⟨_, ‹_›, ‹_›, rfl⟩

/-- **EPATH round trip**: what the reference encoder writes, the server's parser reads back (and leaves
the rest of the buffer untouched) -/
theorem parseEpath_encEpath {p : Path} {e : Bytes} (rest : Bytes) (h : Ref.encEpath p = some e) :
    ∃ segs, Srv.parseEpath false (e ++ rest) = some (segs, rest) ∧ Srv.toPath segs = p := by
  obtain ⟨b, hb, _, rfl⟩ := encEpath_some h
  have h2 : 2 * (b.length / 2) = b.length := by have := encSegs_even hb; omega
  refine ⟨p.map segOf, ?_, toPath_segOf hb⟩
  simp only [List.cons_append, Srv.parseEpath, Bool.false_eq_true, ↓reduceIte, h2, take_append b.length b rest rfl,
    parseSegs_encSegs hb b.length (Nat.le_refl _)]

/-- write requests carry whole elements of a known type (what `typed_data` accepts) -/
def WFSimple : Simple → Bool
  | .writeTag _ ty _ data => Srv.typedOk ty data
  | .writeFrag _ ty _ _ data => Srv.typedOk ty data
  | _ => true

def simplePath : Simple → Path
  | .readTag p _ | .readFrag p _ _ | .writeTag p _ _ _ | .writeFrag p _ _ _ _
  | .getAttrSingle p | .setAttrSingle p _ | .getAttrAll p => p

def reqPath : Req → Path
  | .simple s => simplePath s
  | .multiple p _ => p

/-- what follows the path in a tag-service request -/
def simpleTail : Simple → Bytes
  | .readTag _ n => Bytes.le 2 n
  | .readFrag _ n off => Bytes.le 2 n ++ Bytes.le 4 off
  | .writeTag _ ty n data => Bytes.le 2 ty ++ Bytes.le 2 n ++ data
  | .writeFrag _ ty n off data => Bytes.le 2 ty ++ Bytes.le 2 n ++ Bytes.le 4 off ++ data
  | _ => []

/-- when the reference encoder writes the request (the attribute services: never) -/
def simpleOk : Simple → Prop
  | .readTag _ n => n < 65536
  | .readFrag _ n off => n < 65536 ∧ off < 4294967296
  | .writeTag _ ty n data => ty < 65536 ∧ n < 65536 ∧ data.wf = true
  | .writeFrag _ ty n off data => ty < 65536 ∧ n < 65536 ∧ off < 4294967296 ∧ data.wf = true
  | _ => False

theorem encSimple_some {s : Simple} {b : Bytes} (h : Ref.encSimple s = some b) :
    ∃ e, Ref.encEpath (simplePath s) = some e ∧ simpleOk s ∧
      b = Ref.reqService (.simple s) :: (e ++ simpleTail s) := by
  revert h
  fun_cases Ref.encSimple s <;> intro h <;> cases h
  all_goals exact ⟨_, ‹_›, ‹_›, by
    simp only [Ref.reqService, simpleTail, List.cons_append, List.nil_append, List.append_assoc]⟩

theorem parseSimple_encSimple {s : Simple} {b : Bytes} (h : Ref.encSimple s = some b) (hw : WFSimple s = true) :
    Srv.parseSimple b = some s := by
  obtain ⟨e, he, hok, rfl⟩ := encSimple_some h
  obtain ⟨segs, hp, hs⟩ := parseEpath_encEpath (simpleTail s) he
  -- the three attribute services go with `simpleOk = False`; for the others the parser reads field by field
  cases s <;> simp only [simplePath, simpleTail, simpleOk, WFSimple, List.append_assoc] at hp hs hok hw <;>
    simp [Srv.parseSimple, simpleTail, hp, hs, hok, hw, Ref.reqService, Generated.svcReadTag, Generated.svcReadFrag,
      Generated.svcWriteTag, Generated.svcWriteFrag, u_le, u_le']

theorem offsetsFrom_length (o : Nat) (ms : List Bytes) : (Ref.offsetsFrom o ms).length = ms.length := by
  fun_induction Ref.offsetsFrom o ms <;> simp_all

theorem offsetsFrom_bound (o : Nat) (ms : List Bytes) : ∀ x ∈ Ref.offsetsFrom o ms, x ≤ o + (ms.map List.length).sum := by
  induction ms generalizing o with
  | nil => simp [Ref.offsetsFrom]
  | cons m rest ih =>
    intro x hx
    simp only [Ref.offsetsFrom, List.mem_cons] at hx
    simp only [List.map_cons, List.sum_cons]
    rcases hx with rfl | hx
    · omega
    · have := ih (o + m.length) x hx; omega

theorem words_offsets {ms : List Bytes} (rest : Bytes) (h : Ref.tableLen ms < 65536) :
    words ms.length (((Ref.offsetsFrom (2 + 2 * ms.length) ms).map (Bytes.le 2)).flatten ++ rest)
      = some (Ref.offsetsFrom (2 + 2 * ms.length) ms, rest) := by
  unfold Ref.tableLen at h
  have := words_le (Ref.offsetsFrom (2 + 2 * ms.length) ms) rest
    (fun w hw => by have := offsetsFrom_bound _ _ w hw; omega)
  rwa [offsetsFrom_length] at this

theorem memberSlices_table (hdr : Nat) (ms : List Bytes) (pre : Bytes) :
    Srv.memberSlices (pre ++ ms.flatten) hdr (Ref.offsetsFrom (hdr + pre.length) ms) = ms.map some := by
  induction ms generalizing pre with
  | nil => rfl
  | cons m rest ih =>
    have hrec := ih (pre ++ m)
    rw [List.length_append, ← Nat.add_assoc, List.append_assoc] at hrec
    cases rest with
    | nil => simp [Ref.offsetsFrom, Srv.memberSlices]
    | cons m' rest' =>
      have : hdr ≤ hdr + pre.length + m.length := by omega
      simp only [Ref.offsetsFrom, Srv.memberSlices, List.map_cons, List.flatten_cons] at hrec ⊢
      simp [hrec, this]

def WFSimples (l : List Simple) : Bool := l.all WFSimple

theorem parsePrefix_members {ss : List Simple} {ms : List Bytes} (h : Ref.encSimples ss = some ms)
    (hw : WFSimples ss = true) : Srv.parsePrefix (ms.map some) = ss := by
  revert h
  fun_induction Ref.encSimples ss generalizing ms <;> intro h <;> cases h   -- as along `Ref.encSegs`
  · rfl
  · rename_i hb ha ih
    simp only [WFSimples, List.all_cons, Bool.and_eq_true] at hw
    simp only [List.map_cons, Srv.parsePrefix, parseSimple_encSimple ha hw.1, ih hw.2 hb]

/-- well-formed request: every write carries whole elements of a known type -/
def WFReq : Req → Bool
  | .simple s => WFSimple s
  | .multiple _ ss => WFSimples ss

theorem encReq_multiple {p : Path} {ss : List Simple} {b : Bytes} (h : Ref.encReq (.multiple p ss) = some b) :
    ∃ e ms, Ref.encEpath p = some e ∧ Ref.encSimples ss = some ms ∧ Ref.tableLen ms < 65536
      ∧ b = 0x0A :: (e ++ Ref.encTable ms) := by
  simp only [Ref.encReq] at h
  split at h
  · simp only [Option.ite_none_right_eq_some, Option.some.injEq] at h
    exact ⟨_, _, ‹_›, ‹_›, h.1, h.2.symm⟩
  · cases h

theorem encReq_head {r : Req} {b : Bytes} (h : Ref.encReq r = some b) :
    ∃ e tail, b = Ref.reqService r :: (e ++ tail) ∧ Ref.encEpath (reqPath r) = some e := by
  cases r with
  | simple s =>
    obtain ⟨e, he, _, rfl⟩ := encSimple_some h
    exact ⟨e, _, rfl, he⟩
  | multiple p ss =>
    obtain ⟨e, ms, he, _, _, rfl⟩ := encReq_multiple h
    exact ⟨e, _, rfl, he⟩

/-- **Request round trip**: the server's object parser reads back exactly the request the reference
encoder wrote (tag services and Multiple Service Packets) -/
theorem parseCip_encReq {r : Req} {b : Bytes} (h : Ref.encReq r = some b) (hw : WFReq r = true) :
    Srv.parseCip b = some r := by
  cases r with
  | simple s =>
    obtain ⟨e, _, _, rfl⟩ := encSimple_some h
    have hne : Ref.reqService (.simple s) ≠ Generated.svcMultiple := by
      cases s <;> simp [Ref.reqService, Generated.svcMultiple]
    simp only [Srv.parseCip, if_neg hne, parseSimple_encSimple h hw, Option.map_some]
  | multiple p ss =>
    obtain ⟨e, ms, he, hms, hlen, rfl⟩ := encReq_multiple h
    obtain ⟨segs, hp, hs⟩ := parseEpath_encEpath (Ref.encTable ms) he
    have hwl := words_offsets ms.flatten hlen
    unfold Ref.tableLen at hlen
    have hsl := memberSlices_table (2 + 2 * ms.length) ms []
    simp only [List.nil_append, List.length_nil, Nat.add_zero] at hsl
    simp only [Srv.parseCip, Generated.svcMultiple, ↓reduceIte, Srv.parseMultiple, hp]
    unfold Ref.encTable
    rw [List.append_assoc, u_le 2 ms.length _ (by omega)]
    simp only [hwl, hsl, parsePrefix_members hms hw, hs]

theorem parseEnip_encFrame {h : Ref.Hdr} {payload : Bytes} (hok : h.ok = true) (hl : payload.length < 65536) :
    Srv.parseEnip (Ref.encFrame h payload) =
      some { command := h.command, session := h.session, status := h.status, context := h.context,
             options := h.options, input := payload } := by
  simp only [Ref.Hdr.ok, Bool.and_eq_true, decide_eq_true_eq] at hok
  obtain ⟨⟨⟨⟨⟨h1, h2⟩, h3⟩, h4⟩, _⟩, h6⟩ := hok
  simp only [Ref.encFrame, Srv.parseEnip, List.append_assoc, u_le, take_append, Nat.reducePow, h1, h2, h3, h4, h6, hl,
    ↓reduceIte]

/-- the fields of a produced frame are in range -/
def EnipOk (e : Srv.Enip) : Prop :=
  e.command < 65536 ∧ e.session < 4294967296 ∧ e.status < 4294967296 ∧ e.context.length = 8
    ∧ e.options < 4294967296 ∧ e.input.length < 65536

theorem decFrame_produceEnip {e : Srv.Enip} (hok : EnipOk e) :
    Ref.decFrame (Srv.produceEnip e) =
      some ({ command := e.command, session := e.session, status := e.status, context := e.context,
              options := e.options }, e.input) := by
  obtain ⟨h1, h2, h3, h4, h5, h6⟩ := hok
  simp only [Srv.produceEnip, Ref.decFrame, List.append_assoc, u_le, take_append, Nat.reducePow, h1, h2, h3, h4, h5, h6,
    ↓reduceIte]

end Cpppo.Interop
