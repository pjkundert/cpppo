import Cpppo.Model.ClientPath
import Cpppo.Proofs.PyText
/-! `format_path` followed by `parse_path_elements` (property C12): lemmas for the two documented
path shapes - symbolic tags and numeric class/instance/attribute - with an optional element index and
element count. -/
namespace Cpppo.Client
open Cpppo.Py

/-- a tag name that `format_path` / `parse_path` can carry: non-empty, free of the path syntax -/
def NameOk (n : Str) : Prop := n ≠ [] ∧ '.' ∉ n ∧ '[' ∉ n ∧ '*' ∉ n ∧ n.head? ≠ some '@'

instance (n : Str) : Decidable (NameOk n) := by unfold NameOk; infer_instance

/-- the `[e]` / `[e-l]` suffix written by `format_path` -/
def bracketText (elem : Option Nat) (count : Option Nat) : Str :=
  match elem with
  | none => []
  | some e =>
    match count with
    | none => '[' :: decimal e ++ [']']
    | some c => '[' :: decimal e ++ '-' :: decimal (e + c - 1) ++ [']']

def elemSegs (elem : Option Nat) : List Seg :=
  match elem with
  | none => []
  | some e => [elemSeg (e : Int)]

def countOut (elem count : Option Nat) : Option Int :=
  match elem with
  | none => none
  | some _ => count.map fun c => (c : Int)

theorem over_decimal (S : List Char) (n : Nat) : Over S (decimal n) := Over.of_alnum (decimal_alnum n)

theorem decimalInt_nat (n : Nat) : decimalInt (n : Int) = decimal n := by
  have : ¬ ((n : Int) < 0) := by omega
  simp [decimalInt, this]

theorem not_mem_decimal (n : Nat) (d : Char) (hd : isSpecial d = true) : d ∉ decimal n :=
  (over_decimal [] n).not_mem hd List.not_mem_nil

/-- the text between the brackets: `<elem>` or `<elem>-<last>` -/
def rangeText (e : Nat) : Option Nat → Str
  | none => decimal e
  | some c => decimal e ++ '-' :: decimal (e + c - 1)

theorem bracketText_some (e : Nat) (count : Option Nat) :
    bracketText (some e) count = '[' :: (rangeText e count ++ [']']) := by
  cases count <;> simp [bracketText, rangeText]

theorem over_range (e : Nat) (count : Option Nat) : Over ['-'] (rangeText e count) := by
  cases count with
  | none => exact over_decimal _ e
  | some c => exact (over_decimal _ e).append (.cons (by decide) (over_decimal _ _))

theorem over_bracket (elem count : Option Nat) : Over ['[', '-', ']'] (bracketText elem count) := by
  cases elem with
  | none => exact Over.nil
  | some e =>
    rw [bracketText_some]
    exact .cons (by decide) (((over_range e count).mono (by decide)).append (.cons (by decide) .nil))

/-- the last index of a range of `c` elements from `e`, as `format_path` computes it over the integers -/
theorem last_cast (e c : Nat) (hc : 0 < c) : ((e + c - 1 : Nat) : Int) = (e : Int) + (c : Int) - 1 := by
  omega

/-- a range sets the count, a single index keeps the count it is given -/
theorem parseBracket_range (e : Nat) (count : Option Nat) (hc : ∀ c, count = some c → 0 < c)
    (cnt : Option Int) :
    parseBracket (rangeText e count) cnt = Except.ok ((e : Int), (count.map fun c => (c : Int)).or cnt) := by
  cases count with
  | none =>
    have h : (decimal e).contains '-' = false := by simp [not_mem_decimal e '-' (by decide)]
    simp only [rangeText, parseBracket, h, Bool.false_eq_true, if_false, pyInt10_decimal]
    rfl
  | some c =>
    have h : (decimal e ++ '-' :: decimal (e + c - 1)).contains '-' = true := by simp
    have harith : ((e + c - 1 : Nat) : Int) + 1 - (e : Int) = (c : Int) := by
      rw [last_cast e c (hc c rfl)]; omega
    have hpos : ((c : Nat) : Int) > 0 := Int.natCast_pos.mpr (hc c rfl)
    simp only [rangeText, parseBracket, h, if_true, splitAll_append _ _ _ (not_mem_decimal e '-' (by decide)),
      splitAll_none _ _ (not_mem_decimal _ '-' (by decide)), pyInt10_decimal, harith, hpos]
    rfl

theorem stageStar_none {p : Str} (h : '*' ∉ p) (cnt : Option Int) :
    stageStar p cnt = Except.ok (p, cnt) := by
  rw [stageStar, splitFirst_none _ _ h]; rfl

theorem stageStar_count {p : Str} (h : '*' ∉ p) (c : Nat) (cnt : Option Int) :
    stageStar (p ++ '*' :: decimal c) cnt = Except.ok (p, some (c : Int)) := by
  rw [stageStar, splitFirst_append _ _ _ h]
  simp only [parseInt_decimal]
  rfl

/-- the bracket stage on `<base><bracket>`: a range sets the count, anything else keeps the count it is given -/
theorem stageBracket_text {base : Str} (h : '[' ∉ base) (elem count : Option Nat)
    (hc : ∀ c, count = some c → 0 < c) (cnt : Option Int) :
    stageBracket (base ++ bracketText elem count) none cnt
      = Except.ok (base, elem.map (fun e => (e : Int)), (countOut elem count).or cnt) := by
  cases elem with
  | none => rw [bracketText, List.append_nil, stageBracket, splitFirst_none _ _ h]; rfl
  | some e =>
    simp only [bracketText_some, stageBracket, splitFirst_append _ _ _ h,
      splitAll_append ']' _ [] ((over_range e count).not_mem (by decide) (by decide)), splitAll,
      parseBracket_range e count hc]
    simp [countOut]
    rfl

/-- what a component parser does with `<base><tail>` for every base free of '*' and '[' -/
def TailParses (tail : Str) (E C : Option Int) : Prop :=
  ∀ (base : Str) (segs : List Seg), '*' ∉ base → '[' ∉ base → stageSegs base = Except.ok segs →
    parseComponent (base ++ tail) none none = Except.ok (finishComponent segs E C)

theorem bracket_tail (elem count : Option Nat) (hc : ∀ c, count = some c → 0 < c) :
    TailParses (bracketText elem count) (elem.map fun e => (e : Int)) (countOut elem count) := by
  intro base segs h1 h2 hsegs
  have hstar : '*' ∉ base ++ bracketText elem count := fun hm =>
    (List.mem_append.mp hm).elim h1 ((over_bracket elem count).not_mem (by decide) (by decide))
  rw [parseComponent, stageStar_none hstar]
  simp only [stageBracket_text h2 elem count hc, hsegs, Option.or_none]

theorem star_tail (elem : Option Nat) (c : Nat) :
    TailParses (bracketText elem none ++ '*' :: decimal c) (elem.map fun e => (e : Int))
      (some (c : Int)) := by
  intro base segs h1 h2 hsegs
  have hstar : '*' ∉ base ++ bracketText elem none := fun hm =>
    (List.mem_append.mp hm).elim h1 ((over_bracket elem none).not_mem (by decide) (by decide))
  rw [parseComponent, ← List.append_assoc, stageStar_count hstar]
  simp only [stageBracket_text h2 elem none nofun, hsegs]
  cases elem <;> rfl

theorem fmtLoop_append (a b : List Seg) (st : FmtState) :
    fmtLoop st (a ++ b) = match fmtLoop st a with
      | some st' => fmtLoop st' b
      | none => none := by
  induction a generalizing st with
  | nil => rfl
  | cons s a ih =>
    simp only [List.cons_append, fmtLoop]
    cases fmtStep st s with
    | none => rfl
    | some st' => exact ih st'

def pathOf (st : FmtState) : Str :=
  if st.symbolic ≠ [] then st.symbolic else '@' :: joinWith '/' st.numeric

theorem fmtStep_elem (st : FmtState) (e : Int)
    (h : (st.symbolic.isEmpty != st.numeric.isEmpty) = true) :
    fmtStep st (elemSeg e) = some { st with element := some e } := by
  have h1 : hasKey kSymbolic [(kElement, e)] = false := rfl
  have h2 : hasKey kClass [(kElement, e)] = false := rfl
  have h3 : hasKey kInstance [(kElement, e)] = false := rfl
  have h4 : hasKey kAttribute [(kElement, e)] = false := rfl
  have h5 : hasKey kElement [(kElement, e)] = true := rfl
  have h6 : getKey kElement [(kElement, e)] = e := rfl
  simp [fmtStep, elemSeg, h1, h2, h3, h4, h5, h6, h]

theorem formatPath_with_elem (body : List Seg) (st : FmtState) (h : fmtLoop {} body = some st)
    (hx : (st.symbolic.isEmpty != st.numeric.isEmpty) = true) (he : st.element = none)
    (elem count : Option Nat) (hc : ∀ c, count = some c → 0 < c) :
    formatPath (body ++ elemSegs elem) (count.map fun c => (c : Int))
      = some (pathOf st ++ bracketText elem count) := by
  unfold formatPath
  rw [fmtLoop_append, h]
  cases elem with
  | none => simp [elemSegs, fmtLoop, he, pathOf, bracketText]
  | some e =>
    simp only [elemSegs, fmtLoop, fmtStep_elem st _ hx]
    cases count with
    | none => simp [pathOf, bracketText, decimalInt_nat]
    | some c =>
      simp [pathOf, bracketText, ← last_cast e c (hc c rfl), decimalInt_nat]

/-- `Tag.Sub.Last` -/
def dotted : Str → List Str → Str
  | n, [] => n
  | n, m :: ms => n ++ '.' :: dotted m ms

theorem fmtStep_sym (st : FmtState) (n : Str) (hn : n ≠ []) (hnum : st.numeric = []) :
    fmtStep st (Seg.sym n) =
      some { st with symbolic := st.symbolic ++ (if st.symbolic ≠ [] then ['.'] else []) ++ n } := by
  simp [fmtStep, hnum, hn]

theorem fmtLoop_syms : ∀ (ms : List Str) (st : FmtState) (n : Str),
    n ≠ [] → (∀ m ∈ ms, m ≠ []) → st.numeric = [] →
    fmtLoop st ((n :: ms).map Seg.sym) =
      some { st with symbolic := st.symbolic ++ (if st.symbolic ≠ [] then ['.'] else [])
                                    ++ dotted n ms } := by
  intro ms
  induction ms with
  | nil =>
    intro st n hn _ hnum
    simp only [List.map_cons, List.map_nil, fmtLoop, fmtStep_sym st n hn hnum, dotted]
  | cons m ms ih =>
    intro st n hn hms hnum
    rw [List.map_cons, fmtLoop, fmtStep_sym st n hn hnum]
    simp only
    rw [ih { st with symbolic := st.symbolic ++ (if st.symbolic ≠ [] then ['.'] else []) ++ n } m
      (hms m List.mem_cons_self) (fun x hx => hms x (List.mem_cons_of_mem _ hx)) hnum]
    simp [hn, dotted, List.append_assoc]

theorem stageSegs_name (n : Str) (h : n.head? ≠ some '@') : stageSegs n = Except.ok [Seg.sym n] := by
  fun_cases stageSegs n
  · exact absurd rfl h
  · rfl

theorem parseComponent_name (n : Str) (h : NameOk n) :
    parseComponent n none none = Except.ok ([Seg.sym n], none, none) := by
  simpa [bracketText, countOut, finishComponent] using
    bracket_tail none none nofun n [Seg.sym n] h.2.2.2.1 h.2.2.1 (stageSegs_name n h.2.2.2.2)

def withElem (segs : List Seg) (E : Option Int) : List Seg :=
  match E with
  | some e => segs ++ [elemSeg e]
  | none => segs

theorem withElem_map (segs : List Seg) (elem : Option Nat) :
    withElem segs (elem.map fun e => (e : Int)) = segs ++ elemSegs elem := by
  cases elem <;> simp [withElem, elemSegs]

theorem parseElementsGo_dotted (tail : Str) (htail : '.' ∉ tail) (E C : Option Int)
    (hcomp : TailParses tail E C) : ∀ (ms : List Str) (n : Str), (∀ m ∈ n :: ms, NameOk m) →
    parseElementsGo none none (splitAll '.' (dotted n ms ++ tail))
      = Except.ok (withElem ((n :: ms).map Seg.sym) E, E, C) := by
  intro ms
  induction ms with
  | nil =>
    intro n hok
    have hn := hok n List.mem_cons_self
    rw [dotted, splitAll_none _ _ (fun hm => (List.mem_append.mp hm).elim hn.2.1 htail), parseElementsGo,
      hcomp n [Seg.sym n] hn.2.2.2.1 hn.2.2.1 (stageSegs_name n hn.2.2.2.2)]
    cases E <;> rfl
  | cons m ms ih =>
    intro n hok
    have hn := hok n List.mem_cons_self
    have ih' := ih m (fun x hx => hok x (List.mem_cons_of_mem _ hx))
    rw [dotted, List.append_assoc, List.cons_append, splitAll_append _ _ _ hn.2.1]
    cases hs : splitAll '.' (dotted m ms ++ tail) with
    | nil => rw [hs] at ih'; cases ih'
    | cons x xs =>
      rw [hs] at ih'
      simp only [parseElementsGo, parseComponent_name n hn, ih']
      cases E <;> simp [withElem]

theorem over_hex04 (S : List Char) (n : Nat) : Over S (hex04 (n : Int)) := Over.of_alnum (hex04_alnum n)

/-- the numbers after the class: instance, attribute -/
def moreSegs : Nat → List Nat → List Seg
  | _, [] => []
  | i, v :: vs => Seg.dict [(defaultKey i, (v : Int))] :: moreSegs (i + 1) vs

def moreText : List Nat → Str
  | [] => []
  | v :: vs => '/' :: decimal v ++ moreText vs

def stdSegs (c : Nat) (rest : List Nat) : List Seg :=
  Seg.dict [(kClass, (c : Int))] :: moreSegs 1 rest

def stdText (c : Nat) (rest : List Nat) : Str := '@' :: hex04 (c : Int) ++ moreText rest

theorem over_std (c : Nat) (vs : List Nat) : Over ['@', '/'] (stdText c vs) := by
  refine Over.cons (by decide) ((over_hex04 _ c).append ?_)
  induction vs with
  | nil => exact Over.nil
  | cons v vs ih => exact Over.cons (by decide) ((over_decimal _ v).append ih)

theorem splitAll_joinWith (d : Char) (x : Str) (xs : List Str) (h : ∀ y ∈ x :: xs, d ∉ y) :
    splitAll d (joinWith d (x :: xs)) = x :: xs := by
  induction xs generalizing x with
  | nil => exact splitAll_none d x (h x List.mem_cons_self)
  | cons y ys ih =>
    rw [joinWith, splitAll_append _ _ _ (h x List.mem_cons_self), ih y fun z hz => h z (List.mem_cons_of_mem _ hz)]

theorem joinWith_more (pre : Str) (vs : List Nat) :
    joinWith '/' (pre :: vs.map decimal) = pre ++ moreText vs := by
  induction vs generalizing pre with
  | nil => simp [joinWith, moreText]
  | cons v vs ih => simp [joinWith, moreText, ih (decimal v)]

theorem numericSegs_more (i : Nat) (vs : List Nat) (h : i + vs.length ≤ 4) :
    numericSegs i (vs.map decimal) = Except.ok (moreSegs i vs) := by
  induction vs generalizing i with
  | nil => rfl
  | cons v vs ih =>
    have hi : i < 4 := by simp at h; omega
    have := ih (i + 1) (by simp at h ⊢; omega)
    simp [numericSegs, numericSeg, startsWith_of_not_mem (not_mem_decimal v '{' (by decide)), hi,
      parseInt_decimal, this, moreSegs]

theorem stageSegs_std (c : Nat) (vs : List Nat) (h : vs.length ≤ 3) :
    stageSegs (stdText c vs) = Except.ok (stdSegs c vs) := by
  simp only [stageSegs, stdText, List.cons_append]
  rw [← joinWith_more, splitAll_joinWith '/' _ _ (List.forall_mem_cons.mpr
    ⟨(over_hex04 [] c).not_mem (by decide) (by decide), fun y hy => by
      obtain ⟨v, _, rfl⟩ := List.mem_map.mp hy
      exact not_mem_decimal v '/' (by decide)⟩)]
  have := numericSegs_more 1 vs (by omega)
  simp [numericSegs, numericSeg, startsWith_of_not_mem ((over_hex04 [] c).not_mem (d := '{') (by decide) (by decide)),
    parseInt_hex04, this, stdSegs, defaultKey]

/-- a segment without an 'element' entry: `setElement` appends a segment of its own after it -/
def NoElem : Seg → Prop
  | Seg.sym _ => True
  | Seg.dict kvs => hasKey kElement kvs = false

theorem setElement_noElem (segs : List Seg) (hne : segs ≠ []) (h : ∀ s ∈ segs, NoElem s) (e : Int) :
    setElement segs e = segs ++ [elemSeg e] := by
  induction segs with
  | nil => exact absurd rfl hne
  | cons s t ih =>
    cases t with
    | nil =>
      cases s with
      | sym n => rfl
      | dict kvs =>
        have hk : hasKey kElement kvs = false := h (Seg.dict kvs) List.mem_cons_self
        simp [setElement, hk]
    | cons s' t' =>
      rw [setElement, ih (List.cons_ne_nil _ _) (fun x hx => h x (List.mem_cons_of_mem _ hx))]
      rfl

theorem noElem_more (i : Nat) (vs : List Nat) (h : i + vs.length ≤ 3) : ∀ s ∈ moreSegs i vs, NoElem s := by
  have hkey : ∀ i, i ≤ 2 → (defaultKey i == kElement) = false := by decide +kernel
  induction vs generalizing i with
  | nil => intro s hs; cases hs
  | cons v vs ih =>
    refine List.forall_mem_cons.mpr ⟨?_, ih (i + 1) (by simp at h ⊢; omega)⟩
    simp [NoElem, hasKey, hkey i (by simp at h; omega)]

inductive PathBody
  | symbolic (n : Str) (ms : List Str)
  | numeric (c : Nat) (rest : List Nat)

def PathBody.segs : PathBody → List Seg
  | PathBody.symbolic n ms => (n :: ms).map Seg.sym
  | PathBody.numeric c rest => stdSegs c rest

def PathBody.text : PathBody → Str
  | PathBody.symbolic n ms => dotted n ms
  | PathBody.numeric c rest => stdText c rest

/-- `parse_path_component` takes up to four numbers (class, instance, attribute, element); a body stops at
the attribute, because the element is written as the bracket and gets the fourth place from `setElement` -/
def PathBody.Ok : PathBody → Prop
  | PathBody.symbolic n ms => ∀ m ∈ n :: ms, NameOk m
  | PathBody.numeric _ rest => rest.length ≤ 2

instance (b : PathBody) : Decidable b.Ok := by
  cases b <;> simp only [PathBody.Ok] <;> infer_instance

theorem format_body (b : PathBody) (hb : b.Ok) (elem count : Option Nat)
    (hc : ∀ k, count = some k → 0 < k) :
    formatPath (b.segs ++ elemSegs elem) (count.map fun k => (k : Int))
      = some (b.text ++ bracketText elem count) := by
  cases b with
  | symbolic n ms =>
    have hn := (hb n List.mem_cons_self).1
    have hd : dotted n ms ≠ [] := by cases ms <;> simp [dotted, hn]
    have hloop := fmtLoop_syms ms {} n hn (fun m hm => (hb m (List.mem_cons_of_mem _ hm)).1) rfl
    rw [PathBody.segs, formatPath_with_elem _ _ hloop (by simpa using hd) rfl elem count hc]
    simp [pathOf, hd, PathBody.text]
  | numeric c rest =>
    -- at most three segments: the loop is run
    have hloop : fmtLoop {} (stdSegs c rest)
        = some { numeric := hex04 (c : Int) :: rest.map fun (v : Nat) => decimalInt v } := by
      match rest, hb with
      | [], _ => rfl
      | [_], _ => rfl
      | [_, _], _ => rfl
    simp only [decimalInt_nat] at hloop
    rw [PathBody.segs, formatPath_with_elem _ _ hloop rfl rfl elem count hc]
    simp only [pathOf, ne_eq, not_true_eq_false, if_false, PathBody.text, stdText, joinWith_more]
    rfl

theorem parse_body_tail (b : PathBody) (hb : b.Ok) (tail : Str) (htail : '.' ∉ tail)
    (E C : Option Int) (hcomp : TailParses tail E C) :
    parsePathElements (b.text ++ tail) = Except.ok (withElem b.segs E, E, C) := by
  cases b with
  | symbolic n ms => exact parseElementsGo_dotted tail htail E C hcomp ms n hb
  | numeric c rest =>
    have hstd := over_std c rest
    have hdot : '.' ∉ stdText c rest ++ tail := fun hm =>
      (List.mem_append.mp hm).elim (hstd.not_mem (by decide) (by decide)) htail
    rw [parsePathElements, PathBody.text, splitAll_none _ _ hdot, parseElementsGo,
      hcomp (stdText c rest) (stdSegs c rest) (hstd.not_mem (by decide) (by decide))
        (hstd.not_mem (by decide) (by decide)) (stageSegs_std c rest (Nat.le_succ_of_le hb))]
    cases E with
    | none => rfl
    | some e =>
      have hno : ∀ s ∈ stdSegs c rest, NoElem s :=
        List.forall_mem_cons.mpr ⟨rfl, noElem_more 1 rest (by have : rest.length ≤ 2 := hb; omega)⟩
      rw [finishComponent, setElement_noElem (stdSegs c rest) (List.cons_ne_nil _ _) hno]
      rfl

theorem parse_body (b : PathBody) (hb : b.Ok) (elem count : Option Nat)
    (hc : ∀ k, count = some k → 0 < k) :
    parsePathElements (b.text ++ bracketText elem count)
      = Except.ok (b.segs ++ elemSegs elem, elem.map (fun e => (e : Int)), countOut elem count) := by
  rw [parse_body_tail b hb _ ((over_bracket elem count).not_mem (by decide) (by decide)) _ _
    (bracket_tail elem count hc), withElem_map]

end Cpppo.Client
