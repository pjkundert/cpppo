import Cpppo.Model.Logix

/-! `replyElements` and `tagAccess` in closed form (the fragment arithmetic every property about tag
access rests on), and the list facts about `spliceAt`. -/
namespace Cpppo.Logix

/-- elements per read fragment: the reply budget rounded up to whole elements, at least one -/
def fragCount (B siz : Nat) : Nat := max ((B + siz - 1) / siz) 1

theorem fragCount_pos (B siz : Nat) : 1 ≤ fragCount B siz := Nat.le_max_right _ _

/-- a read that starts inside an element sizes its fragment from that byte on (`tagAccess` then refuses it) -/
theorem replyElements_read {index cnt elm siz off B nd : Nat} :
    replyElements true index cnt elm siz off B nd =
      if index + elm ≤ cnt ∧ off / siz < elm then
        some ⟨index + off / siz, min (index + elm) (index + off / siz + fragCount (off % siz + B) siz),
          index + elm, off % siz⟩
      else none := by
  have hq := fragCount_pos (off % siz + B) siz
  unfold replyElements fragCount at *
  simp only [← Nat.mod_eq_sub_div_mul, ↓reduceIte, true_or, true_and]
  generalize max _ 1 = q, off / siz = j at hq ⊢
  exact ite_congr (propext (by omega)) (fun _ => rfl) fun _ => rfl

/-- a write is not held to element boundaries: `off % siz` is carried along and never looked at -/
theorem replyElements_write {index cnt elm siz off B nd : Nat} :
    replyElements false index cnt elm siz off B nd =
      if index + elm ≤ cnt ∧ 1 ≤ nd ∧ off / siz + nd ≤ elm then
        some ⟨index + off / siz, index + off / siz + nd, index + elm, off % siz⟩
      else none := by
  unfold replyElements
  simp only [Bool.false_eq_true, ↓reduceIte, false_or, ← Nat.mod_eq_sub_div_mul]
  generalize off / siz = j
  exact ite_congr (propext (by omega)) (fun h => by rw [Nat.min_eq_right (by omega)]) fun _ => rfl

/-! ### `tagAccess`: what each kind of access returns, and exactly when it is not refused -/

theorem tagAccess_read (tag : Tag) (B index n off : Nat) (w : List Val) :
    tagAccess tag B true index n off w =
      if index + n ≤ tag.len ∧ off / tag.ty.size < n ∧ off % tag.ty.size = 0 then
        .read (if n - off / tag.ty.size ≤ fragCount B tag.ty.size then 0 else 6)
          ((tag.vals.drop (index + off / tag.ty.size)).take
            (min (n - off / tag.ty.size) (fragCount B tag.ty.size)))
      else .refused := by
  unfold tagAccess
  rw [replyElements_read]
  by_cases h : index + n ≤ tag.len ∧ off / tag.ty.size < n
  · rw [if_pos h]
    by_cases hal : off % tag.ty.size = 0
    · rw [if_pos ⟨h.1, h.2, hal⟩, hal, Nat.zero_add]
      have hq := fragCount_pos B tag.ty.size
      generalize fragCount B tag.ty.size = q, off / tag.ty.size = j at h hq ⊢
      -- the slice `[index + j, min (index + n) (index + j + q))` in terms of its length `min (n - j) q`
      obtain ⟨hv, hst, hk⟩ :
          (index + j < min (index + n) (index + j + q) ∧ min (index + n) (index + j + q) ≤ tag.len)
          ∧ (min (index + n) (index + j + q) = index + n ↔ n - j ≤ q)
          ∧ min (index + n) (index + j + q) - (index + j) = min (n - j) q := by
        omega
      simp only [validSlice, hv, hst, hk, decide_true, Bool.and_self, Bool.not_true, Bool.false_eq_true,
        ↓reduceIte, ne_eq, not_true_eq_false]
    · rw [if_neg fun h' => hal h'.2.2]
      simp only [hal, ↓reduceIte, ne_eq, not_false_eq_true, ite_self]
  · rw [if_neg h, if_neg fun h' => h ⟨h'.1, h'.2.1⟩]

/-- `_validate_key` never refuses here: the checks of `reply_elements` already imply it. -/
theorem tagAccess_write (tag : Tag) (B index n off : Nat) (w : List Val) :
    tagAccess tag B false index n off w =
      if index + n ≤ tag.len ∧ 1 ≤ w.length ∧ off / tag.ty.size + w.length ≤ n then
        .wrote { tag with
          vals := if tag.scalar then w.take 1 else spliceAt tag.vals (index + off / tag.ty.size) w }
      else .refused := by
  unfold tagAccess
  rw [replyElements_write]
  by_cases h : index + n ≤ tag.len ∧ 1 ≤ w.length ∧ off / tag.ty.size + w.length ≤ n
  · rw [if_pos h, if_pos h]
    have hv : validSlice tag.len (index + off / tag.ty.size) (index + off / tag.ty.size + w.length) = true := by
      simp only [validSlice, Bool.and_eq_true, decide_eq_true_eq]; omega
    simp only [hv, Bool.not_true, Bool.false_eq_true, ↓reduceIte]
  · rw [if_neg h, if_neg h]

theorem spliceAt_length (l : List Val) (beg : Nat) (new : List Val) (h : beg + new.length ≤ l.length) :
    (spliceAt l beg new).length = l.length := by
  unfold spliceAt
  simp only [List.length_append, List.length_take, List.length_drop]
  omega

theorem spliceAt_spliceAt (l : List Val) (a : Nat) (x y : List Val)
    (h : a ≤ l.length) :
    spliceAt (spliceAt l a x) (a + x.length) y = spliceAt l a (x ++ y) := by
  -- the first splice is `take a l ++ x`, of length `a + |x|`, followed by `drop (a + |x|) l`
  have ha : (l.take a ++ x).length = a + x.length := by
    rw [List.length_append, List.length_take_of_le h]
  unfold spliceAt
  rw [← ha, List.take_left' rfl, List.drop_append, List.drop_of_length_le (Nat.le_add_right ..),
    List.nil_append, Nat.add_sub_cancel_left, List.drop_drop, ha, List.length_append,
    List.append_assoc _ x y, Nat.add_assoc a]

theorem getElem?_spliceAt (l : List Val) (beg : Nat) (new : List Val) (k : Nat)
    (h : beg + new.length ≤ l.length) :
    (spliceAt l beg new)[k]? =
      if beg ≤ k ∧ k < beg + new.length then new[k - beg]? else l[k]? := by
  have hb : (l.take beg).length = beg := List.length_take_of_le (by omega)
  unfold spliceAt
  rw [List.append_assoc, List.getElem?_append, List.getElem?_append, hb]
  by_cases h1 : k < beg
  · rw [if_pos h1, if_neg fun h => Nat.not_le_of_lt h1 h.1, List.getElem?_take_of_lt h1]
  · rw [if_neg h1]
    by_cases h2 : k - beg < new.length
    · rw [if_pos h2, if_pos ⟨Nat.le_of_not_lt h1, by omega⟩]
    · rw [if_neg h2, if_neg (by omega), List.getElem?_drop]
      congr 1; omega

end Cpppo.Logix
