import Cpppo.Model.Dotdict

/-!
Text level of C16: `_resolve`'s `'..'` rewriting loop and leading-term search, iterated the way the
nested `target[rest]` calls do (`chain`), compute exactly the stack meaning of a dotted path (`chain_render`).

A key is described by its structure (`SKey`: leading dots, components, the run of dots after each).
`red` is one turn of the `while '..' in mine` loop on that structure; it agrees with the text operation
(`dotdotStep`), keeps well-formedness and the meaning (`go`) and shortens the text, so the loop ends in a
reduced key (`elimDotDot_spec`).  The text before the first `..` has one shape (`Pre`), which the search
passes over and the cut shortens by a dot.  On a reduced key `lead`/`resolve` hand out the first component
and the rest (`resolve_reduced`), and the chain of calls lists the components (`chainF_reduced`).
At the end, for Props/C16: `go_append` (the meaning of a key after a prefix of components) and
`balance_pieces` (the bracket-balancing loop of `_resolve`, which does not involve `SKey`).
-/
namespace Cpppo.Dotdict

def dots (n : Nat) : Name := List.replicate n '.'

/-- components with the number of dots that follow each -/
def renderComps : List (Name × Nat) → Name
  | [] => []
  | (s, d) :: r => s ++ dots d ++ renderComps r

/-- the text of a path component: non-empty, no dot, brackets balanced -/
def TextSeg (s : Name) : Prop := s ≠ [] ∧ '.' ∉ s ∧ balanced s = true

theorem dots_succ (n : Nat) : dots (n + 1) = '.' :: dots n := rfl

/-- no `..` in the text -/
def noDD (s : Name) : Prop := splitDotDot s = none

theorem splitDotDot_cons_ne (c : Char) (s : Name) (hc : c ≠ '.') :
    splitDotDot (c :: s) = (splitDotDot s).map fun (f, b) => (c :: f, b) := by
  cases s with
  | nil => simp [splitDotDot]
  | cons d r => simp [splitDotDot, hc]

theorem splitDotDot_dot_ne (d : Char) (r : Name) (hd : d ≠ '.') :
    splitDotDot ('.' :: d :: r) = (splitDotDot (d :: r)).map fun (f, b) => ('.' :: f, b) := by
  simp [splitDotDot, hd]

theorem splitDotDot_seg (s : Name) (hs : '.' ∉ s) (t : Name) :
    splitDotDot (s ++ t) = (splitDotDot t).map fun (f, b) => (s ++ f, b) := by
  induction s with
  | nil => simp
  | cons c r ih =>
    have hc : c ≠ '.' := fun e => hs (by simp [e])
    have hr : '.' ∉ r := fun h => hs (by simp [h])
    rw [List.cons_append, splitDotDot_cons_ne c _ hc, ih hr]
    cases splitDotDot t <;> rfl

theorem splitDotDot_none (s : Name) (hs : '.' ∉ s) : splitDotDot s = none := by
  simpa [splitDotDot] using splitDotDot_seg s hs []

theorem splitDotDot_dot_seg (s : Name) (hne : s ≠ []) (hs : '.' ∉ s) (t : Name) :
    splitDotDot ('.' :: (s ++ t)) = (splitDotDot t).map fun (f, b) => ('.' :: (s ++ f), b) := by
  cases s with
  | nil => exact absurd rfl hne
  | cons c r =>
    have hc : c ≠ '.' := fun e => hs (by simp [e])
    rw [List.cons_append, splitDotDot_dot_ne c _ hc, ← List.cons_append, splitDotDot_seg (c :: r) hs t]
    cases splitDotDot t <;> rfl

theorem splitDotDot_dotdot (t : Name) : splitDotDot ('.' :: '.' :: t) = some ([], t) := by
  simp [splitDotDot]

theorem truncLast_seg (s : Name) (hs : '.' ∉ s) : truncLast s = [] := by
  cases s <;> simp_all [truncLast]

theorem truncLast_append_dot (q s : Name) (hs : '.' ∉ s) : truncLast (q ++ '.' :: s) = q := by
  induction q <;> simp_all [truncLast]

/-- text that can precede a component: nothing, one dot, or earlier components each followed by one dot -/
inductive Pre : Name → Prop
  | nil : Pre []
  | dot : Pre ['.']
  | snoc {q s : Name} : Pre q → s ≠ [] → '.' ∉ s → Pre (q ++ s ++ ['.'])

theorem Pre.pass {q : Name} (hq : Pre q) : ∀ (s : Name), s ≠ [] → '.' ∉ s → ∀ (t : Name),
    splitDotDot (q ++ (s ++ t)) = (splitDotDot t).map fun (f, b) => (q ++ (s ++ f), b) := by
  induction hq with
  | nil => intro s _ hs t; exact splitDotDot_seg s hs t
  | dot => intro s hne hs t; exact splitDotDot_dot_seg s hne hs t
  | @snoc q s0 hq hne0 hs0 ih =>
    intro s hne hs t
    have h1 : (q ++ s0 ++ ['.']) ++ (s ++ t) = q ++ (s0 ++ '.' :: (s ++ t)) := by simp
    rw [h1, ih s0 hne0 hs0, splitDotDot_dot_seg s hne hs]
    cases splitDotDot t <;> simp

/-- a dotted path as text structure: `ld` leading dots, then components each followed by a run of dots -/
structure SKey where
  ld : Nat
  comps : List (Name × Nat)

def SKey.render (k : SKey) : Name := dots k.ld ++ renderComps k.comps

/-- components are proper texts; only the last may have no dot after it -/
def WFC : List (Name × Nat) → Prop
  | [] => True
  | (s, d) :: r => TextSeg s ∧ (r ≠ [] → 1 ≤ d) ∧ WFC r

/-- no run of two or more dots -/
def RedC : List (Name × Nat) → Prop
  | [] => True
  | (_, d) :: r => d ≤ 1 ∧ RedC r

/-- **the meaning of a dotted path**: walk the components with a stack; a run of `d` dots after a
component goes `d - 1` levels up (never above the root).  The result is the stack (innermost first)
and whether a single trailing dot is left. -/
def go : List Name → List (Name × Nat) → List Name × Bool
  | st, [] => (st, false)
  | st, [(s, d)] => if d = 1 then (s :: st, true) else ((s :: st).drop (d - 1), false)
  | st, (s, d) :: r => go ((s :: st).drop (d - 1)) r

theorem go_cons (st : List Name) (s : Name) (d : Nat) {r : List (Name × Nat)} (hr : r ≠ []) :
    go st ((s, d) :: r) = go ((s :: st).drop (d - 1)) r := by
  obtain ⟨⟨s1, d1⟩, r', rfl⟩ := List.exists_cons_of_ne_nil hr
  simp only [go]

theorem go_cons_cons (st : List Name) (s : Name) (d : Nat) (c : Name × Nat) (r : List (Name × Nat)) :
    go st ((s, d) :: c :: r) = go ((s :: st).drop (d - 1)) (c :: r) :=
  go_cons st s d (List.cons_ne_nil c r)

theorem renderComps_ne : ∀ {comps : List (Name × Nat)}, WFC comps → comps ≠ [] → renderComps comps ≠ []
  | [], _, h => absurd rfl h
  | (s, d) :: r, hw, _ => by simp [renderComps, hw.1.1]

theorem dots_renderComps_nil : ∀ {r : List (Name × Nat)}, WFC r → ∀ (e : Nat),
    (dots e ++ renderComps r = [] ↔ e = 0 ∧ r = [])
  | [], _, e => by simp [dots, renderComps]
  | c :: r, hw, e => by simp [renderComps_ne hw]

/-- `x` is empty or does not start with a dot -/
def NoLeadDot : Name → Prop
  | [] => True
  | c :: _ => c ≠ '.'

theorem noLeadDot_renderComps {comps : List (Name × Nat)} (h : WFC comps) : NoLeadDot (renderComps comps) := by
  cases comps with
  | nil => trivial
  | cons hd tl =>
    obtain ⟨s, d⟩ := hd
    obtain ⟨⟨hne, hs, _⟩, _⟩ := h
    obtain ⟨c, s', rfl⟩ := List.exists_cons_of_ne_nil hne
    exact fun e => hs (by simp [e])

/-- one turn of the `'..'` loop when the first `..` follows a component: the front is cut back to its last
dot, which `Pre` puts at the end of `q` -/
theorem dotdotStep_pre {q : Name} (hq : Pre q) (s t : Name) (hne : s ≠ []) (hs : '.' ∉ s) :
    dotdotStep (q ++ (s ++ '.' :: '.' :: t))
      = some (q.dropLast ++ (if q.dropLast ≠ [] ∧ t ≠ [] then ['.'] else []) ++ t) := by
  have hsplit : splitDotDot (q ++ (s ++ '.' :: '.' :: t)) = some (q ++ s, t) := by
    rw [hq.pass s hne hs, splitDotDot_dotdot]
    simp
  have htrunc : truncLast (q ++ s) = q.dropLast := by
    cases hq with
    | nil => exact truncLast_seg s hs
    | dot => exact truncLast_append_dot [] s hs
    | @snoc p s0 _ _ _ => simpa using truncLast_append_dot (p ++ s0) s hs
  simp only [dotdotStep, hsplit, Option.map_some, htrunc]

/-- `s0.` precedes `comps`; the first `..` in `comps` and the component `s1` before it go, so `s0` inherits
the remaining `d1 - 2` dots plus its own.  `dotdotStep` puts the separating dot back only when text follows:
with `d1 = 2` and nothing after, `s0` ends the key and has no dot. -/
def redAfter (s0 : Name) : List (Name × Nat) → List (Name × Nat)
  | (s1, d1) :: r =>
    if 2 ≤ d1 then (s0, if d1 = 2 ∧ r = [] then 0 else d1 - 1) :: r
    else (s0, 1) :: redAfter s1 r
  | [] => [(s0, 1)]

theorem redAfter_ne (s0 : Name) (comps : List (Name × Nat)) : redAfter s0 comps ≠ [] := by
  fun_cases redAfter s0 comps <;> simp

theorem redAfter_spec : ∀ (comps : List (Name × Nat)) (s0 q : Name) (st : List Name), Pre q → TextSeg s0 →
    WFC comps → ¬ RedC comps →
    dotdotStep (q ++ s0 ++ '.' :: renderComps comps) = some (q ++ renderComps (redAfter s0 comps)) ∧
    WFC (redAfter s0 comps) ∧ go st (redAfter s0 comps) = go (s0 :: st) comps
  | [], _, _, _, _, _, _, hnr => absurd trivial hnr
  | (s1, d1) :: r, s0, q, st, hq, hs0, ⟨hs1, hd1, hwr⟩, hnr => by
    have hq' : Pre (q ++ s0 ++ ['.']) := Pre.snoc hq hs0.1 hs0.2.1
    simp only [redAfter]
    split
    · -- the `..` is right after `s1`
      obtain ⟨e, rfl⟩ := Nat.exists_eq_add_of_le' ‹2 ≤ d1›
      have hnil := dots_renderComps_nil hwr e
      refine ⟨?_, ⟨hs0, fun hr => by simp only [hr, and_false, if_false]; omega, hwr⟩, ?_⟩
      · have := dotdotStep_pre hq' s1 (dots e ++ renderComps r) hs1.1 hs1.2.1
        simp only [List.dropLast_concat, ne_eq, hnil] at this
        by_cases h3 : e = 0 ∧ r = []
        · obtain ⟨rfl, rfl⟩ := h3
          simpa [renderComps, dots] using this
        · simpa [renderComps, dots, List.replicate_succ, h3, hs0.1] using this
      · cases r with
        | nil => cases e <;> simp [go]
        | cons c r' => simp [go_cons_cons]
    · -- pass over `s1.` and continue
      have hnr' : ¬ RedC r := fun h => hnr ⟨by omega, h⟩
      have hr : r ≠ [] := fun h => hnr' (h ▸ trivial)
      obtain rfl : d1 = 1 := by have := hd1 hr; omega
      obtain ⟨h1, h2, h3⟩ := redAfter_spec r s1 _ (s0 :: st) hq' hs1 hwr hnr'
      refine ⟨?_, ⟨hs0, fun _ => Nat.le_refl 1, h2⟩, ?_⟩
      · simpa [renderComps, dots] using h1
      · rw [go_cons st s0 1 (redAfter_ne s1 r), go_cons (s0 :: st) s1 1 hr]
        exact h3

theorem dotdotStep_reduced : ∀ (comps : List (Name × Nat)) (q : Name), Pre q → WFC comps → RedC comps →
    dotdotStep (q ++ renderComps comps) = none
  | [], q, hq, _, _ => by
    have : splitDotDot q = none := by
      cases hq with
      | nil => rfl
      | dot => rfl
      | snoc hp hne hs => simpa [splitDotDot] using hp.pass _ hne hs ['.']
    simp [dotdotStep, renderComps, this]
  | (s, d) :: r, q, hq, ⟨⟨hs, hsd, _⟩, hd, hwr⟩, ⟨hd1, hrr⟩ => by
    rcases Nat.le_one_iff_eq_zero_or_eq_one.1 hd1 with rfl | rfl
    · obtain rfl : r = [] := Decidable.byContradiction fun h => by have := hd h; omega
      simpa [dotdotStep, renderComps, dots, splitDotDot] using hq.pass s hs hsd []
    · simpa [renderComps, dots] using
        dotdotStep_reduced r (q ++ s ++ ['.']) (Pre.snoc hq hs hsd) hwr hrr

def SKey.WF (k : SKey) : Prop := WFC k.comps
def SKey.Reduced (k : SKey) : Prop := k.ld ≤ 1 ∧ RedC k.comps
/-- the levels a key addresses (innermost first), and whether one trailing dot is left -/
def SKey.meaning (k : SKey) : List Name × Bool := go [] k.comps

/-- one turn of the `'..'` loop, on the structure -/
def red (k : SKey) : SKey :=
  if 2 ≤ k.ld then ⟨k.ld - 2, k.comps⟩
  else match k.comps with
    | (s, d) :: r => if 2 ≤ d then ⟨d - 2, r⟩ else ⟨k.ld, redAfter s r⟩
    | [] => k

theorem pre_dots (n : Nat) (h : n ≤ 1) : Pre (dots n) ∧ (dots n).dropLast = [] := by
  rcases Nat.le_one_iff_eq_zero_or_eq_one.1 h with rfl | rfl
  · exact ⟨Pre.nil, rfl⟩
  · exact ⟨Pre.dot, rfl⟩

theorem dotdotStep_render_reduced (k : SKey) (hw : k.WF) (hr : k.Reduced) : dotdotStep k.render = none :=
  dotdotStep_reduced k.comps (dots k.ld) (pre_dots _ hr.1).1 hw hr.2

theorem red_spec (k : SKey) (hw : k.WF) (hr : ¬ k.Reduced) :
    dotdotStep k.render = some (red k).render ∧ (red k).WF ∧ (red k).meaning = k.meaning := by
  obtain ⟨ld, comps⟩ := k
  simp only [SKey.WF, SKey.Reduced, SKey.meaning, SKey.render, red] at *
  split
  · -- two leading dots go
    obtain ⟨e, rfl⟩ := Nat.exists_eq_add_of_le' ‹2 ≤ ld›
    refine ⟨?_, hw, rfl⟩
    simp [dotdotStep, dots, List.replicate_succ, splitDotDot_dotdot, truncLast]
  · obtain ⟨hq, hq0⟩ := pre_dots ld (by omega)
    cases comps with
    | nil => exact absurd ⟨by omega, trivial⟩ hr
    | cons c r =>
      obtain ⟨s, d⟩ := c
      obtain ⟨hs, hd, hwr⟩ := hw
      simp only
      split
      · -- the first component goes, and a leading dot with it
        obtain ⟨e, rfl⟩ := Nat.exists_eq_add_of_le' ‹2 ≤ d›
        refine ⟨?_, hwr, ?_⟩
        · have := dotdotStep_pre hq s (dots e ++ renderComps r) hs.1 hs.2.1
          rw [hq0] at this
          simpa [renderComps, dots, List.replicate_succ] using this
        · cases r with
          | nil => simp [go]
          | cons c' r' => simp [go_cons_cons]
      · have hnr : ¬ RedC r := fun h => hr ⟨by omega, by omega, h⟩
        have hr' : r ≠ [] := fun h => hnr (h ▸ trivial)
        obtain rfl : d = 1 := by have := hd hr'; omega
        obtain ⟨h1, h2, h3⟩ := redAfter_spec r s (dots ld) [] hq hs hwr hnr
        exact ⟨by simpa [renderComps, dots] using h1, h2, h3.trans (go_cons [] s 1 hr').symm⟩

theorem splitDotDot_eq (s f b : Name) (h : splitDotDot s = some (f, b)) : s = f ++ '.' :: '.' :: b := by
  fun_induction splitDotDot s generalizing f b with
  | case1 => simp at h                -- empty text
  | case2 => simp at h                -- one character
  | case3 c d r hc => simp_all        -- the text starts with `..`
  | case4 c d r hc ih =>              -- it does not: the split is that of the tail
    simp only [Option.map_eq_some_iff, Prod.mk.injEq, Prod.exists] at h
    obtain ⟨f', b', h', rfl, rfl⟩ := h
    simp [ih f' b' h']

theorem truncLast_length_le (s : Name) : (truncLast s).length ≤ s.length := by
  fun_induction truncLast s <;> simp_all

theorem dotdotStep_shorter (s s' : Name) (h : dotdotStep s = some s') : s'.length < s.length := by
  simp only [dotdotStep, Option.map_eq_some_iff, Prod.exists] at h
  obtain ⟨f, b, hs, rfl⟩ := h
  have hl := truncLast_length_le f
  rw [splitDotDot_eq s f b hs]
  simp only [List.length_append, List.length_cons]
  split <;> simp <;> omega

theorem dotdotLoop_fix (n : Nat) (s : Name) (h : dotdotStep s = none) : dotdotLoop n s = s := by
  cases n <;> simp [dotdotLoop, h]

theorem dotdotLoop_spec : ∀ (n : Nat) (k : SKey), k.WF → k.render.length ≤ n →
    ∃ k' : SKey, k'.WF ∧ k'.Reduced ∧ k'.meaning = k.meaning ∧ dotdotLoop n k.render = k'.render
  | n, k, hw, hl => by
    by_cases hr : k.Reduced
    · exact ⟨k, hw, hr, rfl, dotdotLoop_fix n _ (dotdotStep_render_reduced k hw hr)⟩
    · obtain ⟨h1, h2, h3⟩ := red_spec k hw hr
      have hlt := dotdotStep_shorter _ _ h1
      match n with
      | 0 => omega
      | n + 1 =>
        obtain ⟨k', hw', hr', hm', he'⟩ := dotdotLoop_spec n (red k) h2 (by omega)
        exact ⟨k', hw', hr', hm'.trans h3, by simp [dotdotLoop, h1, he']⟩

/-- **the `'..'` loop leaves a text without `..` that means the same** -/
theorem elimDotDot_spec (k : SKey) (hw : k.WF) :
    ∃ k' : SKey, k'.WF ∧ k'.Reduced ∧ k'.meaning = k.meaning ∧ elimDotDot k.render = k'.render :=
  dotdotLoop_spec _ k hw (Nat.le_refl _)

theorem elimDotDot_reduced (k : SKey) (hw : k.WF) (hr : k.Reduced) : elimDotDot k.render = k.render :=
  dotdotLoop_fix _ _ (dotdotStep_render_reduced k hw hr)

theorem splitDot_seg (s x : Name) (hs : '.' ∉ s) : splitDot (s ++ '.' :: x) = some (s, x) := by
  induction s <;> simp_all [splitDot, @eq_comm _ '.']

theorem splitDot_none (s : Name) (hs : '.' ∉ s) : splitDot s = none := by
  fun_induction splitDot s <;> simp_all

theorem lead_comps (fixed : Bool) (s : Name) (d : Nat) (r : List (Name × Nat)) (hw : WFC ((s, d) :: r))
    (hd : d ≤ 1) (stale : Option Name) :
    lead fixed (renderComps ((s, d) :: r)) stale =
      .ok (s, if d = 0 then stale else some (renderComps r)) := by
  obtain ⟨⟨hne, hsd, hsb⟩, hr, _⟩ := hw
  obtain ⟨c, s', rfl⟩ := List.exists_cons_of_ne_nil hne
  have hc : c ≠ '.' := fun e => hsd (by simp [e])
  rcases Nat.le_one_iff_eq_zero_or_eq_one.1 hd with rfl | rfl
  · obtain rfl : r = [] := Decidable.byContradiction fun h => by have := hr h; omega
    simp [renderComps, dots, lead, hc, splitDot_none _ hsd]
  · have := splitDot_seg (c :: s') (renderComps r) hsd
    simp only [List.cons_append] at this
    simp [renderComps, dots, lead, hc, this, balance, hsb, Except.map]

/-- what the skipped leading dot leaves in `rest`: the text itself in the code as it is (`fixed = false`),
nothing when `rest` is cleared (`fixed = true`) -/
def staleOf (fixed : Bool) (ld : Nat) (t : Name) : Option Name :=
  if ld = 1 ∧ fixed = false then some t else none

theorem resolve_reduced (fixed : Bool) (k : SKey) (hw : k.WF) (hr : k.Reduced) :
    resolve fixed k.render = match k.comps with
      | [] => .error .key
      | (s, d) :: r => .ok (s, if d = 0 then staleOf fixed k.ld (renderComps k.comps)
                               else some (renderComps r)) := by
  simp only [resolve, elimDotDot_reduced k hw hr]
  obtain ⟨ld, comps⟩ := k
  simp only [SKey.render, SKey.WF, SKey.Reduced] at *
  have hlead : lead fixed (dots ld ++ renderComps comps) none
      = lead fixed (renderComps comps) (staleOf fixed ld (renderComps comps)) := by
    rcases Nat.le_one_iff_eq_zero_or_eq_one.1 hr.1 with rfl | rfl
    · simp [dots, staleOf]
    · cases fixed <;> simp [dots, lead, staleOf]
  rw [hlead]
  cases comps with
  | nil => simp [renderComps, lead]
  | cons c r =>
    obtain ⟨s, d⟩ := c
    rw [lead_comps fixed s d r hw hr.2.1]
    simp [hw.1.1]

/-- the segments of a text without `..` -/
def segsOf : List (Name × Nat) → List Name
  | [] => []
  | [(s, d)] => if d = 1 then [s, []] else [s]
  | (s, _) :: r => s :: segsOf r

/-- the `'.' in key` test before `_resolve` is only a short cut -/
theorem step_eq_resolve (fixed : Bool) (key : Name) (hne : key ≠ []) : step fixed key = resolve fixed key := by
  unfold step
  split
  · rfl               -- `'.' ∈ key`
  · rename_i hd       -- no dot: the loop and `lead` leave the key alone
    have he : elimDotDot key = key :=
      dotdotLoop_fix _ _ (by simp [dotdotStep, splitDotDot_none key hd])
    cases key with
    | nil => exact absurd rfl hne
    | cons c s =>
      have hc : c ≠ '.' := fun e => hd (by simp [e])
      simp [resolve, he, lead, hc, splitDot_none _ hd]

theorem step_reduced (fixed : Bool) (s : Name) (d : Nat) (r : List (Name × Nat)) (hw : WFC ((s, d) :: r))
    (hr : RedC ((s, d) :: r)) :
    step fixed (renderComps ((s, d) :: r)) = .ok (s, if d = 0 then none else some (renderComps r)) := by
  rw [step_eq_resolve _ _ (renderComps_ne hw (by simp))]
  simpa [SKey.render, dots, staleOf] using resolve_reduced fixed ⟨0, (s, d) :: r⟩ hw ⟨by simp, hr⟩

theorem chainF_reduced (fixed : Bool) : ∀ (comps : List (Name × Nat)) (n : Nat), WFC comps → RedC comps → comps ≠ [] →
    comps.length + 1 ≤ n → chainF fixed n (renderComps comps) = ⟨segsOf comps, none⟩
  | [], _, _, _, hne, _ => absurd rfl hne
  | (s, d) :: r, n, hw, hr, _, hn => by
    obtain ⟨m, rfl⟩ : ∃ m, n = m + 1 := ⟨n - 1, by simp at hn; omega⟩
    simp only [chainF, step_reduced fixed s d r hw hr]
    cases r with
    | nil =>
      rcases Nat.le_one_iff_eq_zero_or_eq_one.1 hr.1 with rfl | rfl
      · simp [segsOf]
      · -- the trailing dot leaves an empty key for one more call
        obtain ⟨m', rfl⟩ : ∃ m', m = m' + 1 := ⟨m - 1, by simp at hn; omega⟩
        simp [segsOf, renderComps, chainF, step]
    | cons c r =>
      obtain rfl : d = 1 := by have := hw.2.1 (by simp); have := hr.1; omega
      simp [chainF_reduced fixed (c :: r) m hw.2.2 hr.2 (by simp) (by simp at hn ⊢; omega), segsOf]

/-- what the nested calls see for a key with the given meaning: `KeyError` when it addresses the root
itself, else the levels outermost first (plus the empty segment a single trailing dot leaves) -/
def pathOf (m : List Name × Bool) : Path :=
  if m.1 = [] then ⟨[], some .key⟩ else ⟨m.1.reverse ++ (if m.2 then [[]] else []), none⟩

/-- what the nested calls are to see for the key -/
def SKey.path (k : SKey) : Path := pathOf k.meaning

theorem go_reduced : ∀ (comps : List (Name × Nat)) (st : List Name), WFC comps → RedC comps →
    st ≠ [] ∨ comps ≠ [] → pathOf (go st comps) = ⟨st.reverse ++ segsOf comps, none⟩
  | [], st, _, _, h => by simp [go, segsOf, pathOf, h.resolve_right (by simp)]
  | [(s, d)], st, _, hr, _ => by
    rcases Nat.le_one_iff_eq_zero_or_eq_one.1 hr.1 with rfl | rfl <;> simp [go, segsOf, pathOf]
  | (s, d) :: c :: r, st, hw, hr, _ => by
    obtain rfl : d = 1 := by have := hw.2.1 (by simp); have := hr.1; omega
    rw [go_cons_cons, go_reduced (c :: r) _ hw.2.2 hr.2 (Or.inl (by simp))]
    obtain ⟨s1, d1⟩ := c
    simp [segsOf]

theorem renderComps_length_ge : ∀ (comps : List (Name × Nat)), WFC comps →
    comps.length ≤ (renderComps comps).length
  | [], _ => by simp
  | (s, d) :: r, hw => by
    have := renderComps_length_ge r hw.2.2
    have := List.length_pos_iff.2 hw.1.1
    simp only [renderComps, List.length_append, List.length_cons]
    omega

theorem dotdotLoop_length_le (n : Nat) (s : Name) : (dotdotLoop n s).length ≤ s.length := by
  fun_induction dotdotLoop n s with
  | case1 => exact Nat.le_refl _      -- no fuel
  | case2 => exact Nat.le_refl _      -- no `..` left
  | case3 n s s' h ih => have := dotdotStep_shorter s s' h; omega

/-- the text is one dot followed by a single component -/
def dotName : Name → Bool
  | '.' :: s => s != [] && !(decide ('.' ∈ s))
  | _ => false

/-- the key reduces (by the `'..'` loop) to one leading dot and a single component: the case in
which the code as it is leaves `rest` stale -/
def reducesToDotName (key : Name) : Bool := dotName (elimDotDot key)

/-- **`_resolve`, iterated the way the nested calls do, yields exactly the levels the dotted path
means**: every extra dot after a component goes one level up, leading dots and going above the root
are ignored, and a path that ends at the root itself is refused with `KeyError`.
`fixed = true` is `_resolve` with `rest` cleared after a skipped leading dot; for the code as it is (`fixed = false`) the keys that
reduce to `.name` are excluded. -/
theorem chain_render (fixed : Bool) (k : SKey) (hw : k.WF) (hne : k.render ≠ [])
    (hok : fixed = true ∨ reducesToDotName k.render = false) : chain fixed k.render = k.path := by
  obtain ⟨k', hw', hr', hm', he'⟩ := elimDotDot_spec k hw
  rw [SKey.path, ← hm']
  -- the first `_resolve` sees the reduced text
  have hstep : step fixed k.render = resolve fixed k'.render := by
    simp only [step_eq_resolve _ _ hne, resolve, he', elimDotDot_reduced k' hw' hr']
  rw [resolve_reduced fixed k' hw' hr'] at hstep
  have hlen : k'.render.length ≤ k.render.length := by rw [← he']; exact dotdotLoop_length_le _ _
  unfold chain
  generalize k.render = key at hne hok he' hstep hlen ⊢
  obtain ⟨ld', comps'⟩ := k'
  simp only [SKey.meaning, SKey.WF, SKey.Reduced, SKey.render] at hw' hr' hstep hlen he' ⊢
  cases comps' with
  | nil => simp [chainF, hstep, go, pathOf]
  | cons c r =>
    obtain ⟨s, d⟩ := c
    -- `rest` would be stale only if the reduced text were `.name`
    have hstale : d = 0 → staleOf fixed ld' (renderComps ((s, d) :: r)) = none := by
      rintro rfl
      obtain rfl : r = [] := Decidable.byContradiction fun h => by have := hw'.2.1 h; omega
      unfold staleOf
      rw [if_neg]
      rintro ⟨rfl, rfl⟩
      rcases hok with hf | hb
      · cases hf
      · simp [reducesToDotName, he', dots, renderComps, dotName, hw'.1.1, hw'.1.2.1] at hb
    have hsame : step fixed key = step fixed (renderComps ((s, d) :: r)) := by
      rw [hstep, step_reduced fixed s d r hw' hr'.2]
      cases d <;> simp [hstale]
    have hfuel : ((s, d) :: r).length + 1 ≤ key.length + 1 := by
      have := renderComps_length_ge _ hw'
      simp only [List.length_append] at hlen
      omega
    have : chainF fixed (key.length + 1) key = chainF fixed (key.length + 1) (renderComps ((s, d) :: r)) := by
      simp only [chainF, hsame]
    rw [this, chainF_reduced fixed _ _ hw' hr'.2 (by simp) hfuel,
      go_reduced _ [] hw' hr'.2 (Or.inr (by simp))]
    rfl

/-- the stack after walking a prefix of components -/
def stackAfter : List Name → List (Name × Nat) → List Name
  | st, [] => st
  | st, (s, d) :: r => stackAfter ((s :: st).drop (d - 1)) r

theorem go_append : ∀ (pre r : List (Name × Nat)) (st : List Name), r ≠ [] →
    go st (pre ++ r) = go (stackAfter st pre) r
  | [], _, _, _ => rfl
  | (s, d) :: pre, r, st, hr => by
    rw [List.cons_append, go_cons st s d (by simp [hr]), stackAfter]
    exact go_append pre r _ hr

/-- the remainder text: the pieces, each followed by a dot, then `tail` -/
def rjoin (ps : List Name) (tail : Name) : Name := ps.foldr (fun p t => p ++ '.' :: t) tail

/-- `acc` with the pieces appended, each after a dot (what the balancing loop has assembled) -/
def accAfter (acc : Name) (ps : List Name) : Name := ps.foldl (fun a p => a ++ '.' :: p) acc

theorem rjoin_length (ps : List Name) (tail : Name) : ps.length ≤ (rjoin ps tail).length := by
  induction ps with
  | nil => simp [rjoin]
  | cons p r ih =>
    simp only [rjoin, List.foldr_cons, List.length_append, List.length_cons] at ih ⊢
    omega

/-- **the bracket-balancing loop joins exactly as many dot-separated pieces as it takes to balance the
brackets**: if the text assembled so far is unbalanced before each of the pieces `ps` and balanced after
the last one, the loop returns it whole, with the untouched `tail` as the rest. -/
theorem balance_pieces : ∀ (ps : List Name) (acc tail : Name) (n : Nat),
    (∀ p ∈ ps, '.' ∉ p) →
    (∀ i, i < ps.length → balanced (accAfter acc (ps.take i)) = false) →
    balanced (accAfter acc ps) = true → ps.length + 1 ≤ n →
    balance n acc (rjoin ps tail) = .ok (accAfter acc ps, tail)
  | _, _, _, 0, _, _, _, hn => by simp at hn
  | [], acc, tail, m + 1, _, _, hb, _ => by
    simp only [accAfter, List.foldl_nil] at hb
    simp [balance, hb, rjoin, accAfter]
  | p :: r, acc, tail, m + 1, hp, hu, hb, hn => by
    have h0 : balanced acc = false := by simpa [accAfter] using hu 0 (by simp)
    have hne : rjoin (p :: r) tail ≠ [] := by simp [rjoin]
    have hsplit : splitDot (rjoin (p :: r) tail) = some (p, rjoin r tail) :=
      splitDot_seg p _ (hp p (by simp))
    simp only [balance, h0, Bool.false_eq_true, if_false, hne, hsplit]
    have ih := balance_pieces r (acc ++ '.' :: p) tail m (fun q hq => hp q (by simp [hq]))
      (fun i hi => by
        have := hu (i + 1) (by simp; omega)
        simpa [accAfter, List.take_succ_cons] using this)
      (by simpa [accAfter] using hb) (by simp at hn ⊢; omega)
    simpa [accAfter] using ih

end Cpppo.Dotdict
