import Cpppo.Proofs.Times.Round
import Cpppo.Proofs.Times.Digits
import Cpppo.Proofs.Times.Calendar

/-! C17: a rendering split into terms and read back; the order of renderings. -/

namespace Cpppo.Times

theorem splitOn_append (isD : Char → Bool) (a : List Char) (d : Char) (b : List Char)
    (hd : isD d = true) : splitOn isD (a ++ d :: b) = splitOn isD a ++ splitOn isD b := by
  suffices ∀ cur, splitAux isD cur (a ++ d :: b) = splitAux isD cur a ++ splitOn isD b from this []
  intro cur
  fun_induction splitAux isD cur a <;> simp_all [splitAux, splitOn]

theorem splitOn_word (isD : Char → Bool) (w : List Char) (hne : w ≠ [])
    (hw : ∀ c ∈ w, isD c = false) : splitOn isD w = [w] := by
  suffices ∀ cur, cur ≠ [] ∨ w ≠ [] → splitAux isD cur w = [cur.reverse ++ w] from this [] (.inr hne)
  clear hne
  intro cur
  fun_induction splitAux isD cur w <;> simp_all

theorem splitOn_flatMap {D1 D2 : Char → Bool} (h : ∀ c, D1 c = true → D2 c = true) (s : List Char) :
    (splitOn D1 s).flatMap (splitOn D2) = splitOn D2 s := by
  suffices ∀ cur, (splitAux D1 cur s).flatMap (splitOn D2) = splitOn D2 (cur.reverse ++ s) from this []
  induction s with
  | nil => intro cur; cases cur <;> simp [splitAux, splitOn]
  | cons c cs ih =>
    intro cur
    rw [splitAux]
    split
    · -- `c` is a `D1` delimiter, so a `D2` delimiter too: both sides are cut here
      rw [splitOn_append D2 _ c cs (h c ‹_›)]
      cases cur <;> simp [ih, splitOn, splitAux]
    · simp [ih]

theorem Digits.noWs {l : List Char} (h : Digits l) : ∀ c ∈ l, isWs c = false :=
  fun c hc => (isDigit_props (h c hc)).ws

/-- the time word of a rendering: its last word, unless a zone follows (`pad2` is `fixDigits 2`) -/
def timeText (c : Civil) (p frac : Nat) : List Char :=
  fixDigits 2 c.hh.toNat ++ ':' :: (fixDigits 2 c.mm.toNat ++ ':' :: (fixDigits 2 c.ss.toNat ++
    (if p = 0 then [] else '.' :: fixDigits p frac)))

theorem formatCivil_eq (c : Civil) (p frac : Nat) :
    formatCivil c p frac =
      (natDigits c.y.toNat ++ '-' :: (fixDigits 2 c.m.toNat ++ '-' :: fixDigits 2 c.d.toNat))
        ++ ' ' :: timeText c p frac := by
  simp [formatCivil, timeText, pad2_eq_fix2, List.append_assoc]

/-- every character is a digit or one of `:-.` -/
def DigSep (l : List Char) : Prop := ∀ c ∈ l, isDigit c = true ∨ isSep c = true

theorem DigSep.noWs {l : List Char} (h : DigSep l) : ∀ c ∈ l, isWs c = false := by
  intro c hc
  rcases h c hc with hd | hs
  · exact (isDigit_props hd).ws
  · simp only [isSep, Bool.or_eq_true, beq_iff_eq] at hs
    rcases hs with (rfl | rfl) | rfl <;> decide

theorem DigSep.append {a b : List Char} (ha : DigSep a) (hb : DigSep b) : DigSep (a ++ b) :=
  List.forall_mem_append.mpr ⟨ha, hb⟩

theorem DigSep.sep {a b : List Char} {d : Char} (ha : DigSep a) (hd : isSep d = true)
    (hb : DigSep b) : DigSep (a ++ d :: b) :=
  ha.append (List.forall_mem_cons.mpr ⟨.inr hd, hb⟩)

theorem timeText_digSep (c : Civil) (p frac : Nat) : DigSep (timeText c p frac) := by
  have fix : ∀ p k, DigSep (fixDigits p k) := fun p k c hc => .inl (fixDigits_digits p k c hc)
  unfold timeText
  refine (fix _ _).sep rfl ((fix _ _).sep rfl ?_)
  split
  · exact (fix _ _).append fun _ h => nomatch h
  · exact (fix _ _).sep rfl (fix _ _)

theorem sep_is_delim {d : Char} (h : isSep d = true) : isWsOrSep d = true := by
  simp [isWsOrSep, h]

/-- the terms of a rendering; the fraction term is there iff `p ≠ 0` -/
def termsOf (c : Civil) (p frac : Nat) : List (List Char) :=
  [natDigits c.y.toNat, fixDigits 2 c.m.toNat, fixDigits 2 c.d.toNat, fixDigits 2 c.hh.toNat,
    fixDigits 2 c.mm.toNat, fixDigits 2 c.ss.toNat]
    ++ (if p = 0 then [] else [fixDigits p frac])

theorem split_formatCivil (c : Civil) (p frac : Nat) :
    splitOn isWsOrSep (formatCivil c p frac) = termsOf c p frac := by
  have word := fun w (h : Digits w) (hne : w ≠ []) =>
    splitOn_word isWsOrSep w hne fun c hc => (isDigit_props (h c hc)).wsOrSep
  unfold formatCivil termsOf
  -- `splitOn_append` cuts at each of `- - ␣ : : .` (its side condition `isWsOrSep d` by `decide`),
  -- `word` turns each field between them into one term
  by_cases hp : p = 0 <;>
    simp (decide := true) [hp, word, pad2_eq_fix2, splitOn_append, natDigits_digits, fixDigits_digits,
      natDigits_ne_nil, fixDigits_ne_nil]

/-- `tokenize` looks only at the last white-space word `w` of a text: a word that starts with a
digit is part of the date and time, any other is taken for the zone.  Splitting at white space
before splitting at `:-.` and white space changes nothing (`splitOn_flatMap`).  The word is given
as `w` with `w = x :: r`, so that a call can leave it folded (`timeText …`). -/
theorem tokenize_last {a w r : List Char} {x : Char} (hx : w = x :: r)
    (hw : ∀ c ∈ w, isWs c = false) :
    tokenize true (a ++ ' ' :: w) = if isDigit x = true
      then .ok (splitOn isWsOrSep (a ++ ' ' :: w), none) else .ok (splitOn isWsOrSep a, some w) := by
  have hf := @splitOn_flatMap isWs isWsOrSep fun c h => by simp [isWsOrSep, h]
  have hs : splitOn isWs (a ++ ' ' :: w) = splitOn isWs a ++ [w] := by
    rw [splitOn_append _ _ _ _ rfl, splitOn_word _ w (by simp [hx]) hw]
  subst hx
  simp [tokenize, hs, hf, splitOn_append isWsOrSep a ' ' _ rfl]

/-- a trailing word that the parser takes for a time zone: not empty, no white space,
not starting with a digit -/
def ZoneWord (w : List Char) : Prop :=
  (∀ c ∈ w, isWs c = false) ∧ ∃ a rest, w = a :: rest ∧ isDigit a = false

theorem tokenize_plain (c : Civil) (p frac : Nat) :
    tokenize true (formatCivil c p frac) = .ok (termsOf c p frac, none) := by
  rw [formatCivil_eq, tokenize_last (w := timeText c p frac) rfl (timeText_digSep c p frac).noWs,
    if_pos (isDigit_digitOf _), ← formatCivil_eq, split_formatCivil]

theorem tokenize_zone (c : Civil) (p frac : Nat) (w : List Char) (hw : ZoneWord w) :
    tokenize true (formatCivil c p frac ++ ' ' :: w) = .ok (termsOf c p frac, some w) := by
  obtain ⟨hws, a, rest, hwa, hnd⟩ := hw
  rw [tokenize_last hwa hws, if_neg (by simp [hnd]), split_formatCivil]

theorem pyInt_natDigits {y : Int} (h : 0 ≤ y) : pyInt (natDigits y.toNat) = some y := by
  rw [pyInt_digits _ (natDigits_digits _) (natDigits_ne_nil _), digitsValAcc_natDigits]
  exact congrArg some (Int.toNat_of_nonneg h)

theorem pyInt_fix2 {f : Int} (h : 0 ≤ f ∧ f < 100) : pyInt (fixDigits 2 f.toNat) = some f := by
  rw [pyInt_digits _ (fixDigits_digits _ _) (fixDigits_ne_nil (by decide) _),
    digitsValAcc_fixDigits 2 _ 0 (show _ < 100 by omega), Nat.zero_mul, Nat.zero_add]
  exact congrArg some (Int.toNat_of_nonneg h.1)

theorem pyInt_padFraction (p frac : Nat) (hp : p ≠ 0) (hf : frac < pow10 p) :
    pyInt (padFraction (fixDigits p frac)) = some ((frac * pow10 (6 - p) : Nat) : Int) := by
  unfold padFraction
  rw [pyInt_digits _
      ((fixDigits_digits p frac).append fun c hc => List.eq_of_mem_replicate hc ▸ rfl)
      (List.append_ne_nil_of_left_ne_nil (fixDigits_ne_nil hp _) _),
    digitsValAcc_append, digitsValAcc_fixDigits p frac 0 hf, fixDigits_length]
  simp [digitsValAcc_zeros]

/-- the microseconds term that the parser reads from `p` fraction digits `frac` -/
def microOf (p frac : Nat) : Int := if p = 0 then 0 else ((frac * pow10 (6 - p) : Nat) : Int)

theorem readTerms_termsOf (c : Civil) (p frac : Nat) (hv : c.valid = true) (hp : p ≤ 6)
    (hf : frac < pow10 p) : readTerms (termsOf c p frac) = .ok (c, microOf p frac) := by
  obtain ⟨y, -, m, d, hh, mm, ss⟩ := valid_fields hv
  have iy := pyInt_natDigits (Int.le_trans (by decide) y)
  have hlt : frac * pow10 (6 - p) < 1000000 :=
    pow10_six p hp ▸ Nat.mul_lt_mul_of_pos_right hf (pow10_pos _)
  by_cases hp0 : p = 0 <;>
    simp [hp0, termsOf, readTerms, mapInts, iy, pyInt_fix2, m, d, hh, mm, ss, hv, microOf,
      fun h => pyInt_padFraction p frac h hf]
  omega

theorem parse_format_plain (db : TzDb) (c : Civil) (p frac : Nat) (hv : c.valid = true) (hp : p ≤ 6)
    (hf : frac < pow10 p) :
    parse db (formatCivil c p frac) = instantOf utcZone none c (microOf p frac) := by
  unfold parse parseWith
  rw [tokenize_plain]
  simp only [resolveZone, readTerms_termsOf c p frac hv hp hf]

theorem parse_format_zone (db : TzDb) (c : Civil) (p frac : Nat) (hv : c.valid = true) (hp : p ≤ 6)
    (hf : frac < pow10 p) (w : List Char) (hw : ZoneWord w) (z : Zone) (flag : Option Bool)
    (hdb : db.info w = .ok (z, flag)) :
    parse db (formatCivil c p frac ++ ' ' :: w) = instantOf z flag c (microOf p frac) := by
  unfold parse parseWith
  rw [tokenize_zone c p frac w hw]
  simp only [resolveZone, hdb, readTerms_termsOf c p frac hv hp hf]

theorem parse_format_nozone (db : TzDb) (c : Civil) (p frac : Nat) (w : List Char) (hw : ZoneWord w)
    (e : Reject) (hdb : db.info w = .error e) :
    parse db (formatCivil c p frac ++ ' ' :: w) = .error e := by
  unfold parse parseWith
  rw [tokenize_zone c p frac w hw]
  simp only [resolveZone, hdb]

/-- the fraction digits of a rounded instant denote exactly its sub-second part -/
theorem micro_of_rounded (p : Nat) (μ bias : Int) (hp1 : 1 ≤ p) (hp : p ≤ 6) :
    microOf p ((roundTo p μ bias % 1000000).toNat / pow10 (6 - p)) = roundTo p μ bias % 1000000 := by
  obtain ⟨k, hk, -⟩ := roundTo_spec p μ bias
  rw [microOf, if_neg (by omega), hk, Int.natCast_mul, frac_of_quantum p hp, quantum_emod p hp]

theorem frac_lt (p : Nat) (hp : p ≤ 6) (s : Nat) (hs : s < 1000000) : s / pow10 (6 - p) < pow10 p := by
  rw [Nat.div_lt_iff_lt_mul (pow10_pos _), pow10_six p hp]; exact hs

/-- a non-negative field of fixed width followed by a separator: the lexicographic step on `Int`
fields; `P` is the rest of `keyLt`'s nested disjunction, handed on to `hr` -/
theorem num_step (wd : Nat) (c : Char) {a b : Int} {r1 r2 : List Char} {P : Prop} (ha : 0 ≤ a)
    (hb : b < (pow10 wd : Nat)) (h : a < b ∨ (a = b ∧ P)) (hr : P → r1 < r2) :
    fixDigits wd a.toNat ++ c :: r1 < fixDigits wd b.toNat ++ c :: r2 :=
  fixDigits_lt wd (by omega) (h.imp (by omega) fun ⟨e, hp⟩ => ⟨congrArg _ e, List.Lex.cons (hr hp)⟩)

theorem year_eq_fix4 {y : Int} (h1 : 1000 ≤ y) (h2 : y ≤ 9999) :
    natDigits y.toNat = fixDigits 4 y.toNat :=
  natDigits_eq_fix 3 _ (show 1000 ≤ _ by omega) (show _ < 10000 by omega)

theorem formatCivil_lt (c1 c2 : Civil) (p f1 f2 : Nat) (hp : 1 ≤ p) (hv1 : c1.valid = true)
    (hv2 : c2.valid = true) (hy1 : 1000 ≤ c1.y) (hy2 : 1000 ≤ c2.y) (hf : f2 < pow10 p)
    (h : keyLt c1 f1 c2 f2) : formatCivil c1 p f1 < formatCivil c2 p f2 := by
  obtain ⟨-, y1, m1, d1, hh1, mm1, ss1⟩ := valid_fields hv1
  obtain ⟨-, y2, m2, d2, hh2, mm2, ss2⟩ := valid_fields hv2
  unfold formatCivil
  rw [if_neg (Nat.ne_of_gt hp), if_neg (Nat.ne_of_gt hp), year_eq_fix4 hy1 y1, year_eq_fix4 hy2 y2]
  simp only [pad2_eq_fix2, List.append_assoc, List.cons_append]
  exact num_step 4 '-' (Int.le_trans (by decide) hy1) (Int.lt_of_le_of_lt y2 (by decide)) h fun h =>
    num_step 2 '-' m1.1 m2.2 h fun h => num_step 2 ' ' d1.1 d2.2 h fun h =>
    num_step 2 ':' hh1.1 hh2.2 h fun h => num_step 2 ':' mm1.1 mm2.2 h fun h =>
    num_step 2 '.' ss1.1 ss2.2 h fun h => by
      simpa using fixDigits_lt p (x := []) (y := []) hf (.inl h)

end Cpppo.Times
