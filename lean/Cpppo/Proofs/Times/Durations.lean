import Cpppo.Proofs.Times.Digits

/-! C17: `durFormat` parsed back by `durItems`. -/

namespace Cpppo.Times

/-- one `{n}{unit}` item of `duration._format` (omitted when `n = 0`) -/
def durItem (n : Nat) (u : String) : List Char := if n = 0 then [] else natDigits n ++ u.toList

theorem unitText_nat (n : Nat) (u : String) : unitText (n : Int) u = durItem n u := by
  simp [unitText, durItem, intDigits, show ¬ (n : Int) < 0 by omega]

/-- the sub-minute tail of `duration._format`; the whole seconds `S` only decide between "0s" and
nothing when seconds and microseconds of the tail are zero -/
def durTail (S s micro : Nat) : List Char :=
  if micro / 1000 > 0 ∧ (s > 0 ∨ micro % 1000 > 0) then
    rstripZeros (natDigits s ++ '.' :: fixDigits 6 micro) ++ ['s']
  else if micro > 0 ∨ s > 0 then
    (if s = 0 then [] else natDigits s ++ ['s'])
      ++ (if micro % 1000 > 0 then natDigits micro ++ "us".toList
          else if micro / 1000 > 0 then natDigits (micro / 1000) ++ "ms".toList else [])
  else if micro = 0 ∧ S = 0 then "0s".toList
  else []

theorem durFormat_nat (cfg : DurCfg) (d : Nat) :
    durFormat cfg (d : Int) =
      let S := d / 1000000
      let micro := d % 1000000
      let ySecs := S % cfg.yr
      let wSecs := ySecs % cfg.wk
      let dSecs := wSecs % cfg.dy
      let hSecs := dSecs % cfg.hr
      durItem (S / cfg.yr) "y" ++ durItem (ySecs / cfg.wk) "w" ++ durItem (wSecs / cfg.dy) "d"
        ++ durItem (dSecs / cfg.hr) "h" ++ durItem (hSecs / cfg.mn) "m" ++ durTail S (hSecs % cfg.mn) micro := by
  have e1 : (d : Int) / 1000000 = ((d / 1000000 : Nat) : Int) := by omega
  have e2 : ((d : Int) % 1000000).toNat = d % 1000000 := by omega
  simp only [durFormat, e1, e2, ← Int.natCast_ediv, ← Int.natCast_emod, Int.toNat_natCast, Int.natCast_eq_zero,
    unitText_nat, durTail, Bool.and_eq_true, Bool.or_eq_true, decide_eq_true_eq]

/-- the rest of the text does not continue a unit word -/
def StartsOk (rest : List Char) : Prop := spanAlpha rest = ([], rest)

/-- `text` does not continue a unit word, and parses, for every sufficient fuel, from state
`(next, f)` to the fields `r` -/
def Parses (tbl : UnitTable) (next : Nat) (f : DurFields) (text : List Char) (r : DurFields) : Prop :=
  StartsOk text ∧ ∀ k, text.length ≤ k → durItems tbl (k + 1) next f text = some r

theorem Parses_nil {tbl : UnitTable} {next : Nat} {f : DurFields} : Parses tbl next f [] f :=
  ⟨rfl, fun k _ => by simp [durItems, dropWs]⟩

theorem spanDigits_append (ds rest : List Char) (hd : Digits ds) (hr : spanDigits rest = ([], rest)) :
    spanDigits (ds ++ rest) = (ds, rest) := by
  induction ds with
  | nil => exact hr
  | cons d ds ih => simp [spanDigits, hd d (by simp), ih fun c hc => hd c (by simp [hc])]

theorem spanAlpha_append (w rest : List Char) (hw : ∀ c ∈ w, isAlpha c = true)
    (hr : spanAlpha rest = ([], rest)) : spanAlpha (w ++ rest) = (w, rest) := by
  induction w with
  | nil => exact hr
  | cons d ds ih => simp [spanAlpha, hw d (by simp), ih fun c hc => hw c (by simp [hc])]

/-- a unit word: letters only -/
def UnitWord (u : List Char) : Prop :=
  u ≠ [] ∧ ∀ c ∈ u, isAlpha c = true ∧ isDigit c = false ∧ isWs c = false ∧ isDecPoint c = false

instance (u : List Char) : Decidable (UnitWord u) := by unfold UnitWord; infer_instance

theorem dropWs_of_head (c : Char) (r : List Char) (h : isWs c = false) : dropWs (c :: r) = c :: r := by
  simp [dropWs, h]

theorem StartsOk_digits (n : Nat) (rest : List Char) : StartsOk (natDigits n ++ rest) := by
  obtain ⟨d, ds, h, hd⟩ := natDigits_cons n
  simp [StartsOk, h, spanAlpha, (isDigit_props hd).alpha]

/-- `durItems` at a number followed by a character that is no digit: a decimal point starts the
fraction of the seconds, which ends the text; anything else has to be the unit word of the number -/
theorem durItems_number (tbl : UnitTable) (k next : Nat) (f : DurFields) (n : Nat) {c : Char} (rest : List Char)
    (hc : isDigit c = false) :
    durItems tbl (k + 1) next f (natDigits n ++ c :: rest) =
      if isDecPoint c then
        let fra := spanDigits rest
        let unit := spanAlpha (dropWs fra.2)
        if fra.1.isEmpty || next > 5 || unitIndex tbl unit.1 != some 5 || !(dropWs unit.2).isEmpty then none
        else some { f with s := n, sFra := some fra.1 }
      else
        let unit := spanAlpha (dropWs (c :: rest))
        (unitIndex tbl unit.1).bind fun idx =>
          if idx < next then none else durItems tbl k (idx + 1) (f.set idx n) unit.2 := by
  obtain ⟨d, ds, h, hd⟩ := natDigits_cons n
  have hdw : dropWs (natDigits n ++ c :: rest) = natDigits n ++ c :: rest := by
    rw [h]; exact dropWs_of_head d _ (isDigit_props hd).ws
  rw [durItems, hdw, spanDigits_append _ _ (natDigits_digits n) (by simp [spanDigits, hc])]
  simp only [digitsValAcc_natDigits, Option.getD_some]
  simp only [h, List.cons_append, List.isEmpty_cons, Bool.false_eq_true, if_false]
  cases unitIndex tbl (spanAlpha (dropWs (c :: rest))).1 <;> rfl

theorem Parses_item {tbl : UnitTable} {next idx n : Nat} {f r : DurFields} {u rest : List Char}
    (hu : UnitWord u) (hidx : unitIndex tbl u = some idx) (hnext : next ≤ idx)
    (h : Parses tbl (idx + 1) (f.set idx n) rest r) :
    Parses tbl next f (natDigits n ++ (u ++ rest)) r := by
  refine ⟨StartsOk_digits _ _, fun k hk => ?_⟩
  obtain ⟨a, as, rfl⟩ := List.exists_cons_of_ne_nil hu.1
  have ha := hu.2 a (by simp)
  simp only [List.length_append, List.length_cons] at hk
  obtain ⟨k, rfl⟩ : ∃ j, k = j + 1 := ⟨k - 1, by omega⟩
  rw [List.cons_append, durItems_number tbl _ next f n _ ha.2.1, if_neg (by simp [ha.2.2.2]),
    dropWs_of_head a _ ha.2.2.1, ← List.cons_append,
    spanAlpha_append _ _ (fun c hc => (hu.2 c hc).1) h.1]
  simp only [hidx, Option.bind_some]
  rw [if_neg (by omega)]
  exact h.2 k (by omega)

/-- an optional item: nothing when `n = 0` (the group keeps its default 0, and `next` stays where it
was: hence the rest has to parse from every `next' ≤ idx + 1`) -/
theorem Parses_opt {tbl : UnitTable} {next idx n : Nat} {f r : DurFields} {rest : List Char} (u : String)
    (hu : UnitWord u.toList) (hidx : unitIndex tbl u.toList = some idx) (hnext : next ≤ idx)
    (hz : f.set idx 0 = f) (h : ∀ next', next' ≤ idx + 1 → Parses tbl next' (f.set idx n) rest r) :
    Parses tbl next f (durItem n u ++ rest) r := by
  unfold durItem
  split
  next h0 =>
    have := h next (by omega)
    rwa [h0, hz] at this
  next =>
    rw [List.append_assoc]
    exact Parses_item hu hidx hnext (h _ (Nat.le_refl _))

theorem rstripZeros_append (a b : List Char) (h : rstripZeros b ≠ []) :
    rstripZeros (a ++ b) = a ++ rstripZeros b := by
  unfold rstripZeros at h ⊢
  rw [List.reverse_append, List.dropWhile_append, if_neg (by simpa using h), List.reverse_append,
    List.reverse_reverse]

/-- what `rstripZeros` removes is a run of zeros -/
theorem rstripZeros_pad (l : List Char) : ∃ k, rstripZeros l ++ List.replicate k '0' = l := by
  have hz : l.reverse.takeWhile (· == '0') = List.replicate _ '0' :=
    List.eq_replicate_iff.2 ⟨rfl, fun b hb => by simpa using List.all_eq_true.1 List.all_takeWhile b hb⟩
  have h := congrArg List.reverse (List.takeWhile_append_dropWhile (p := (· == '0')) (l := l.reverse))
  rw [List.reverse_append, List.reverse_reverse, hz, List.reverse_replicate] at h
  exact ⟨_, h⟩

theorem stripped_fraction (micro : Nat) (h0 : 0 < micro) (h1 : micro < 1000000) :
    rstripZeros (fixDigits 6 micro) ≠ [] ∧ Digits (rstripZeros (fixDigits 6 micro)) ∧
    fractionMicros (some (rstripZeros (fixDigits 6 micro))) = micro := by
  obtain ⟨k, hk⟩ := rstripZeros_pad (fixDigits 6 micro)
  have hval : digitsValAcc 0 (fixDigits 6 micro) = some micro := by
    rw [digitsValAcc_fixDigits 6 micro 0 h1, Nat.zero_mul, Nat.zero_add]
  have hlen := congrArg List.length hk
  rw [List.length_append, List.length_replicate, fixDigits_length] at hlen
  refine ⟨fun hnil => ?_, fun c hc => fixDigits_digits 6 micro c ?_, ?_⟩
  · rw [← hk, hnil, List.nil_append, digitsValAcc_zeros, Nat.zero_mul] at hval
    cases hval; omega
  · rw [← hk]; exact List.mem_append_left _ hc
  · simp only [fractionMicros]
    rw [show 6 - (rstripZeros (fixDigits 6 micro)).length = k by omega, hk, hval]; rfl

/-- `"{s}.{frac}s"` as the last item -/
theorem Parses_fraction {tbl : UnitTable} {next : Nat} (s : Nat) (f : DurFields) {fra : List Char}
    (hs : unitIndex tbl ['s'] = some 5) (hnext : next ≤ 5) (hfra : fra ≠ []) (hdig : Digits fra) :
    Parses tbl next f (natDigits s ++ '.' :: (fra ++ ['s'])) { f with s := s, sFra := some fra } := by
  refine ⟨StartsOk_digits _ _, fun k _ => ?_⟩
  rw [durItems_number tbl k next f s _ (by decide), if_pos (by decide),
    spanDigits_append _ _ hdig (by decide)]
  simp only [show dropWs ['s'] = ['s'] by decide, show spanAlpha ['s'] = (['s'], []) by decide, hs]
  rw [if_neg (by simp [hfra, dropWs]; omega)]

/-- the unit words that `duration._format` writes close the groups they should
(discharged for the table extracted from the live regular expression) -/
structure UnitsOk (tbl : UnitTable) : Prop where
  y : unitIndex tbl "y".toList = some 0
  w : unitIndex tbl "w".toList = some 1
  d : unitIndex tbl "d".toList = some 2
  h : unitIndex tbl "h".toList = some 3
  m : unitIndex tbl "m".toList = some 4
  s : unitIndex tbl "s".toList = some 5
  ms : unitIndex tbl "ms".toList = some 6
  us : unitIndex tbl "us".toList = some 7

/-- the sub-minute tail parses to seconds `s` and sub-second groups worth `micro` µs -/
theorem Parses_tail (tbl : UnitTable) (hU : UnitsOk tbl) (S s micro : Nat) (hm : micro < 1000000) :
    ∃ fra ms us, fractionMicros fra + ms * 1000 + us = micro ∧
      ∀ Y W D H Mi next, next ≤ 5 → Parses tbl next { y := Y, w := W, d := D, h := H, m := Mi } (durTail S s micro)
        { y := Y, w := W, d := D, h := H, m := Mi, s := s, sFra := fra, ms := ms, us := us } := by
  fun_cases durTail S s micro
  next hc =>
    -- `{s}.{fraction}s`
    obtain ⟨hne, hdig, hval⟩ := stripped_fraction micro (by omega) hm
    rw [List.append_cons (natDigits s), rstripZeros_append _ _ hne]
    simp only [List.append_assoc, List.singleton_append]
    exact ⟨_, 0, 0, by simpa using hval, fun _ _ _ _ _ next hnext => Parses_fraction s _ hU.s hnext hne hdig⟩
  next =>
    -- `{s}s`, then the whole sub-second part in `us`, or in `ms` when it is a whole number of them
    obtain ⟨ms, us, hsub, hsum⟩ : ∃ ms us,
        (if micro % 1000 > 0 then natDigits micro ++ "us".toList
          else if micro / 1000 > 0 then natDigits (micro / 1000) ++ "ms".toList else [])
          = durItem ms "ms" ++ (durItem us "us" ++ []) ∧ ms * 1000 + us = micro := by
      by_cases hus : micro % 1000 > 0
      · exact ⟨0, micro, by simp [durItem, hus, show micro ≠ 0 by omega], by omega⟩
      · exact ⟨micro / 1000, 0, by simp only [durItem, hus, if_false, if_true, List.append_nil, Nat.pos_iff_ne_zero, ite_not],
          by omega⟩
    rw [show (if s = 0 then [] else natDigits s ++ ['s']) = durItem s "s" from rfl, hsub]
    refine ⟨none, ms, us, by simpa [fractionMicros] using hsum, fun _ _ _ _ _ next hnext => ?_⟩
    refine Parses_opt "s" (by decide) hU.s hnext rfl fun n1 h1 => ?_
    refine Parses_opt "ms" (by decide) hU.ms h1 rfl fun n2 h2 => ?_
    exact Parses_opt "us" (by decide) hU.us h2 rfl fun _ _ => Parses_nil
  next _ hc2 _ =>
    -- "0s": the whole duration is zero
    obtain ⟨rfl, rfl⟩ : micro = 0 ∧ s = 0 := by omega
    refine ⟨none, 0, 0, rfl, fun _ _ _ _ _ next hnext => ?_⟩
    rw [show "0s".toList = natDigits 0 ++ ("s".toList ++ []) by decide]
    exact Parses_item (by decide) hU.s hnext Parses_nil
  next _ hc2 _ =>
    -- nothing: the tail is zero, the duration is not
    obtain ⟨rfl, rfl⟩ : micro = 0 ∧ s = 0 := by omega
    exact ⟨none, 0, 0, rfl, fun _ _ _ _ _ _ _ => Parses_nil⟩

/-- the groups above the seconds, each omitted when it is zero -/
theorem Parses_head {tbl : UnitTable} (hU : UnitsOk tbl) {Y W D H Mi : Nat} {tail : List Char} {r : DurFields}
    (hp : ∀ next, next ≤ 5 → Parses tbl next { y := Y, w := W, d := D, h := H, m := Mi } tail r) :
    Parses tbl 0 {}
      (durItem Y "y" ++ durItem W "w" ++ durItem D "d" ++ durItem H "h" ++ durItem Mi "m" ++ tail) r := by
  simp only [List.append_assoc]
  refine Parses_opt "y" (by decide) hU.y (Nat.le_refl _) rfl fun n1 h1 => ?_
  refine Parses_opt "w" (by decide) hU.w h1 rfl fun n2 h2 => ?_
  refine Parses_opt "d" (by decide) hU.d h2 rfl fun n3 h3 => ?_
  refine Parses_opt "h" (by decide) hU.h h3 rfl fun n4 h4 => ?_
  exact Parses_opt "m" (by decide) hU.m h4 rfl hp

/-- `duration._format` of a non-negative duration parses to groups that add up to it -/
theorem durItems_format (cfg : DurCfg) (tbl : UnitTable) (hU : UnitsOk tbl) (d : Nat) :
    ∃ r, durItems tbl ((durFormat cfg (d : Int)).length + 1) 0 {} (durFormat cfg (d : Int)) = some r ∧
      (r.s + cfg.mn * r.m + cfg.hr * r.h + cfg.dy * r.d + cfg.wk * r.w + cfg.yr * r.y) * 1000000
        + (fractionMicros r.sFra + r.ms * 1000 + r.us + r.ns / 1000) = d := by
  rw [durFormat_nat]
  simp only []
  generalize hS : d / 1000000 = S
  generalize hmicro : d % 1000000 = micro
  obtain ⟨fra, ms, us, hmic, hp⟩ := Parses_tail tbl hU S
    (S % cfg.yr % cfg.wk % cfg.dy % cfg.hr % cfg.mn) micro (by omega)
  refine ⟨_, (Parses_head hU (hp _ _ _ _ _)).2 _ (Nat.le_refl _), ?_⟩
  simp only []
  -- `omega` takes each product `cfg.x * (_ / cfg.x)` as an atom: the same term in the goal and in `e1 … e5`
  have e1 := Nat.div_add_mod S cfg.yr
  have e2 := Nat.div_add_mod (S % cfg.yr) cfg.wk
  have e3 := Nat.div_add_mod (S % cfg.yr % cfg.wk) cfg.dy
  have e4 := Nat.div_add_mod (S % cfg.yr % cfg.wk % cfg.dy) cfg.hr
  have e5 := Nat.div_add_mod (S % cfg.yr % cfg.wk % cfg.dy % cfg.hr) cfg.mn
  have e6 := Nat.div_add_mod d 1000000
  rw [hS, hmicro] at e6
  omega

end Cpppo.Times
