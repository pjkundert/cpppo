import Cpppo.Model.Times

/-! C17: the civil calendar. `civilFromDays` finds the March-based year `y` and the day `doy` of that year
(`civilFromDays_march`); validity of the date, the inverse `daysFromCivil` and the order of dates all follow from
that one description. -/

namespace Cpppo.Times

theorem isLeap_iff (y : Int) : isLeap y = true ↔ y % 4 = 0 ∧ (y % 100 ≠ 0 ∨ y % 400 = 0) := by
  simp [isLeap]

/-- days from 1 March of year 0 to 1 March of year `y`: the March-based year `y` runs from there
to the end of February of `y + 1` -/
def marchDays (y : Int) : Int := 365 * y + y / 4 - y / 100 + y / 400

/-- the civil date of day `doy` (0 is 1 March) of the March-based year `y`, as `civilFromDays`
computes it once it has found `y` and `doy` -/
def civilOfMarch (y doy : Int) : Int × Int × Int :=
  let mp := (5 * doy + 2) / 153
  let d := doy - (153 * mp + 2) / 5 + 1
  let m := if mp < 10 then mp + 3 else mp - 9
  (y + (if m ≤ 2 then 1 else 0), m, d)

/-- four cycles of `L` days and one day more: the cycle number is clamped to 3, so that the last
cycle takes the extra day (the leap day of a 4-year cycle, of a 400-year cycle) -/
theorem cycle_split (L n c : Int) (hL : 0 < L) (h0 : 0 ≤ n) (h1 : n ≤ 4 * L)
    (hc : c = if n / L ≥ 4 then 3 else n / L) :
    0 ≤ c ∧ c ≤ 3 ∧ 0 ≤ n - L * c ∧ n - L * c ≤ L ∧ (n - L * c = L → c = 3) := by
  have e := Int.mul_ediv_add_emod n L
  have r0 := Int.emod_nonneg n (Int.ne_of_gt hL)
  have r1 := Int.emod_lt_of_pos n hL
  have q0 : 0 ≤ n / L := Int.ediv_nonneg h0 (Int.le_of_lt hL)
  have q4 : n / L ≤ 4 := Int.ediv_le_of_le_mul hL h1
  generalize n / L = q at *
  generalize n % L = r at *
  subst hc
  split
  · have : q = 4 := by omega
    subst this; omega
  · omega

/-- this and `leap_cascade` are stated apart from `march_cascade`: with the other facts of the cascade in
context `omega` does not find them -/
theorem marchDays_cascade (e c q yq : Int) (hc : 0 ≤ c ∧ c ≤ 3) (hq : 0 ≤ q ∧ q ≤ 24) (hyq : 0 ≤ yq ∧ yq ≤ 3) :
    marchDays (100 * c + 4 * q + yq + e * 400) = 146097 * e + 36524 * c + 1461 * q + 365 * yq := by
  unfold marchDays; omega

/-- the last year of a 4-year cycle ends in a leap year, unless it is the last of a century (`q = 24`)
that is not the last of its 400 years -/
theorem leap_cascade (e c q : Int) (hq : 0 ≤ q ∧ q ≤ 24) (h : q = 24 → c = 3) :
    isLeap (100 * c + 4 * q + 3 + e * 400 + 1) = true := by
  rw [isLeap_iff]; omega

/-- the cascade of `civilFromDays` on the day `doe` of era `e`: century `c`, 4-year cycle `q`, year
`yq` of the cycle -/
theorem march_cascade (e doe c r1 q r2 yq : Int) (h0 : 0 ≤ doe) (h1 : doe < 146097)
    (hc : c = if doe / 36524 ≥ 4 then 3 else doe / 36524) (hr1 : r1 = doe - 36524 * c)
    (hq : q = r1 / 1461) (hr2 : r2 = r1 % 1461) (hyq : yq = if r2 / 365 ≥ 4 then 3 else r2 / 365) :
    0 ≤ r2 - 365 * yq ∧ r2 - 365 * yq ≤ 365 ∧
    (r2 - 365 * yq = 365 → isLeap (100 * c + 4 * q + yq + e * 400 + 1) = true) ∧
    marchDays (100 * c + 4 * q + yq + e * 400) + (r2 - 365 * yq) = e * 146097 + doe := by
  -- each division is dealt with on its own and then cleared: `omega` is slow with all of them in view
  have C := cycle_split 36524 doe c (by decide) h0 (by omega) hc
  rw [← hr1] at C
  clear hc
  have Q : 0 ≤ q ∧ q ≤ 24 ∧ 0 ≤ r2 ∧ r2 < 1461 ∧ r1 = 1461 * q + r2 := by omega
  have Y := cycle_split 365 r2 yq (by decide) Q.2.2.1 (by omega) hyq
  clear hq hr2 hyq
  refine ⟨Y.2.2.1, Y.2.2.2.1, fun h => ?_, ?_⟩
  · have := Y.2.2.2.2 h
    subst this
    exact leap_cascade e c q ⟨Q.1, Q.2.1⟩ (by omega)
  · rw [marchDays_cascade e c q yq ⟨C.1, C.2.1⟩ ⟨Q.1, Q.2.1⟩ ⟨Y.1, Y.2.1⟩]; omega

theorem civilFromDays_march (z : Int) : ∃ y doy : Int,
    0 ≤ doy ∧ doy ≤ 365 ∧ (doy = 365 → isLeap (y + 1) = true) ∧
    marchDays y + doy = z + 719468 ∧ civilFromDays z = civilOfMarch y doy := by
  have h := march_cascade ((z + 719468) / 146097) ((z + 719468) % 146097) _ _ _ _ _
    (Int.emod_nonneg _ (by decide)) (Int.emod_lt_of_pos _ (by decide)) rfl rfl rfl rfl rfl
  rw [Int.ediv_mul_add_emod] at h
  exact ⟨_, _, h.1, h.2.1, h.2.2.1, h.2.2.2, rfl⟩

/-- the lengths of the months March .. January are the differences of the offsets `(153 mp + 2) / 5` -/
theorem daysInMonth_march (y mp : Int) (h0 : 0 ≤ mp) (h1 : mp ≤ 10) :
    daysInMonth y (if mp < 10 then mp + 3 else mp - 9) = (153 * (mp + 1) + 2) / 5 - (153 * mp + 2) / 5 := by
  have : mp = 0 ∨ mp = 1 ∨ mp = 2 ∨ mp = 3 ∨ mp = 4 ∨ mp = 5 ∨ mp = 6 ∨ mp = 7 ∨ mp = 8 ∨ mp = 9 ∨ mp = 10 := by
    omega
  rcases this with rfl | rfl | rfl | rfl | rfl | rfl | rfl | rfl | rfl | rfl | rfl <;> rfl

theorem civilFromDays_valid (z : Int) :
    1 ≤ (civilFromDays z).2.1 ∧ (civilFromDays z).2.1 ≤ 12 ∧ 1 ≤ (civilFromDays z).2.2 ∧
    (civilFromDays z).2.2 ≤ daysInMonth (civilFromDays z).1 (civilFromDays z).2.1 := by
  obtain ⟨y, doy, h0, h1, hl, -, e⟩ := civilFromDays_march z
  rw [e]
  simp only [civilOfMarch]
  generalize hmp : (5 * doy + 2) / 153 = mp
  by_cases h10 : mp ≤ 10
  · rw [daysInMonth_march _ mp (by omega) h10]
    omega
  · have : mp = 11 := by omega
    subst this
    refine ⟨by decide, by decide, by omega, ?_⟩
    show doy - (153 * 11 + 2) / 5 + 1 ≤ if isLeap (y + 1) then 29 else 28
    split
    next => omega
    next hleap =>
      have : doy ≠ 365 := fun h => hleap (hl h)
      omega

theorem daysFromCivil_eq (y m d : Int) :
    daysFromCivil y m d = marchDays (if m ≤ 2 then y - 1 else y)
      + ((153 * (if m > 2 then m - 3 else m + 9) + 2) / 5 + d - 1) - 719468 := by
  simp only [daysFromCivil, marchDays]
  omega

theorem daysFromCivil_civilFromDays (z : Int) :
    daysFromCivil (civilFromDays z).1 (civilFromDays z).2.1 (civilFromDays z).2.2 = z := by
  obtain ⟨y, doy, h0, h1, -, hz, e⟩ := civilFromDays_march z
  rw [e]
  simp only [civilOfMarch, daysFromCivil_eq]
  -- January and February belong to the March-based year before their own
  rw [show ∀ m : Int, (if m ≤ 2 then y + (if m ≤ 2 then 1 else 0) - 1 else y + (if m ≤ 2 then 1 else 0)) = y
    from fun m => by omega]
  omega

/-- `(year, month, day)` in lexicographic order -/
def dateLt (a b : Int × Int × Int) : Prop :=
  a.1 < b.1 ∨ (a.1 = b.1 ∧ (a.2.1 < b.2.1 ∨ (a.2.1 = b.2.1 ∧ a.2.2 < b.2.2)))

theorem civilFromDays_lt (n1 n2 : Int) (h : n1 < n2) : dateLt (civilFromDays n1) (civilFromDays n2) := by
  obtain ⟨y1, d1, a0, a1, -, ha, e1⟩ := civilFromDays_march n1
  obtain ⟨y2, d2, b0, b1, -, hb, e2⟩ := civilFromDays_march n2
  rw [e1, e2]
  -- the March-based years are ordered, and within one year the days are
  have hy : y1 ≤ y2 := by
    unfold marchDays at ha hb
    omega
  have hd : y1 = y2 → d1 < d2 := by rintro rfl; omega
  clear ha hb e1 e2 h
  simp only [dateLt, civilOfMarch]
  -- `omega` splits the `if`s itself: each date is in March..December of `y` or in January/February of `y + 1`
  omega

theorem secsOfCivil_civilOfSecs (s : Int) : secsOfCivil (civilOfSecs s) = s := by
  simp only [secsOfCivil, civilOfSecs]
  rw [daysFromCivil_civilFromDays]
  omega

theorem daysInMonth_le (y m : Int) : daysInMonth y m ≤ 31 := by
  fun_cases daysInMonth y m <;> omega

theorem civilOfSecs_valid (s : Int) (h1 : 1 ≤ (civilOfSecs s).y) (h2 : (civilOfSecs s).y ≤ 9999) :
    (civilOfSecs s).valid = true := by
  have h := civilFromDays_valid (s / 86400)
  simp only [Civil.valid, Bool.and_eq_true, decide_eq_true_eq]
  simp only [civilOfSecs] at h1 h2 ⊢
  omega

/-- `< 100`, not 12/31/24/60: what is needed of these fields is that `pad2` writes them in full -/
theorem valid_fields {c : Civil} (h : c.valid = true) :
    1 ≤ c.y ∧ c.y ≤ 9999 ∧ (0 ≤ c.m ∧ c.m < 100) ∧ (0 ≤ c.d ∧ c.d < 100) ∧ (0 ≤ c.hh ∧ c.hh < 100) ∧
    (0 ≤ c.mm ∧ c.mm < 100) ∧ (0 ≤ c.ss ∧ c.ss < 100) := by
  simp only [Civil.valid, Bool.and_eq_true, decide_eq_true_eq] at h
  have := daysInMonth_le c.y c.m
  omega

/-- civil fields, then the fraction digits `f` of a rendering read as a number, in lexicographic order -/
def keyLt (c1 : Civil) (f1 : Nat) (c2 : Civil) (f2 : Nat) : Prop :=
  c1.y < c2.y ∨ (c1.y = c2.y ∧ (c1.m < c2.m ∨ (c1.m = c2.m ∧ (c1.d < c2.d ∨ (c1.d = c2.d ∧
    (c1.hh < c2.hh ∨ (c1.hh = c2.hh ∧ (c1.mm < c2.mm ∨ (c1.mm = c2.mm ∧
      (c1.ss < c2.ss ∨ (c1.ss = c2.ss ∧ f1 < f2)))))))))))

theorem civilOfSecs_key (s1 s2 : Int) (f1 f2 : Nat) (h : s1 < s2 ∨ (s1 = s2 ∧ f1 < f2)) :
    keyLt (civilOfSecs s1) f1 (civilOfSecs s2) f2 := by
  unfold keyLt
  rcases h with h | ⟨rfl, h⟩
  · by_cases hd : s1 / 86400 < s2 / 86400
    · -- an earlier day: the first three levels of `keyLt` are `dateLt`
      exact (civilFromDays_lt _ _ hd).imp_right (And.imp_right (Or.imp_right (And.imp_right Or.inl)))
    · have hd' : s1 / 86400 = s2 / 86400 := by omega
      simp only [civilOfSecs, hd', Int.lt_irrefl, false_or, true_and]
      omega
  · omega

end Cpppo.Times
