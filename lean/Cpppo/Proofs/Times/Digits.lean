import Cpppo.Model.Times

/-! C17: decimal digits (`natDigits`, `fixDigits`, `pad2`, `pyInt`) and their lexicographic order.
Both kinds of numeral are described by their last digit (`natDigits_rec`, `fixDigits_snoc`). -/

namespace Cpppo.Times

theorem digitVal_digitOf {k : Nat} (h : k < 10) : digitVal (digitOf k) = some k :=
  (by decide : ∀ k < 10, digitVal (digitOf k) = some k) k h

/-- `digitOf` sends every number above 8 to `'9'`, so no bound on `k` is needed -/
theorem isDigit_digitOf (k : Nat) : isDigit (digitOf k) = true := by
  fun_cases digitOf k <;> rfl

theorem isDigit_iff (c : Char) : isDigit c = true ↔
    c = '0' ∨ c = '1' ∨ c = '2' ∨ c = '3' ∨ c = '4' ∨ c = '5' ∨ c = '6' ∨ c = '7' ∨ c = '8' ∨ c = '9' := by
  unfold isDigit
  fun_cases digitVal c <;> simp_all

/-- what the parsers have to know of a digit: it is none of the characters they treat specially -/
structure DigitChar (c : Char) : Prop where
  wsOrSep : isWsOrSep c = false
  ws : isWs c = false
  alpha : isAlpha c = false
  plus : c ≠ '+'
  minus : c ≠ '-'

theorem isDigit_props {c : Char} (h : isDigit c = true) : DigitChar c := by
  rw [isDigit_iff] at h
  rcases h with rfl | rfl | rfl | rfl | rfl | rfl | rfl | rfl | rfl | rfl <;> constructor <;> decide

/-- every character of `l` is a decimal digit -/
def Digits (l : List Char) : Prop := ∀ c ∈ l, isDigit c = true

theorem Digits.append {a b : List Char} (ha : Digits a) (hb : Digits b) : Digits (a ++ b) :=
  List.forall_mem_append.mpr ⟨ha, hb⟩

theorem natDigitsAux_eq (f n : Nat) (acc : List Char) (h : n < f) :
    natDigitsAux f n acc = natDigits n ++ acc := by
  induction f using Nat.strongRecOn generalizing n acc with
  | _ f ih =>
    match f, h with
    | f + 1, h =>
      unfold natDigits
      rw [natDigitsAux, natDigitsAux]
      split
      · rfl
      · rw [ih f (by omega) _ _ (by omega), ih n (by omega) _ _ (by omega), List.append_assoc]; rfl

theorem natDigits_rec (n : Nat) :
    natDigits n = if n < 10 then [digitOf n] else natDigits (n / 10) ++ [digitOf (n % 10)] := by
  unfold natDigits
  rw [natDigitsAux]
  split
  · rfl
  · exact natDigitsAux_eq n (n / 10) _ (by omega)

theorem natDigits_digits (n : Nat) : Digits (natDigits n) := by
  induction n using Nat.strongRecOn with
  | _ n ih =>
    rw [natDigits_rec]
    split
    · simp [Digits, isDigit_digitOf]
    · exact (ih _ (by omega)).append (by simp [Digits, isDigit_digitOf])

theorem natDigits_ne_nil (n : Nat) : natDigits n ≠ [] := by
  rw [natDigits_rec]
  split <;> simp

theorem natDigits_cons (n : Nat) : ∃ d ds, natDigits n = d :: ds ∧ isDigit d = true := by
  obtain ⟨d, ds, h⟩ := List.exists_cons_of_ne_nil (natDigits_ne_nil n)
  exact ⟨d, ds, h, natDigits_digits n d (by rw [h]; simp)⟩

theorem digitsValAcc_append (a : Nat) (xs ys : List Char) :
    digitsValAcc a (xs ++ ys) = (digitsValAcc a xs).bind (fun v => digitsValAcc v ys) := by
  fun_induction digitsValAcc a xs <;> simp_all [digitsValAcc]

theorem digitsValAcc_natDigits (n : Nat) : digitsValAcc 0 (natDigits n) = some n := by
  induction n using Nat.strongRecOn with
  | _ n ih =>
    rw [natDigits_rec]
    split
    · simp [digitsValAcc, digitVal_digitOf, *]
    · simp [digitsValAcc_append, ih (n / 10) (by omega), digitsValAcc,
        digitVal_digitOf (Nat.mod_lt n (by decide))]
      omega

theorem fixDigits_digits (p k : Nat) : Digits (fixDigits p k) := by
  fun_induction fixDigits p k <;> simp_all [Digits, isDigit_digitOf]

theorem fixDigits_length (p k : Nat) : (fixDigits p k).length = p := by
  fun_induction fixDigits p k <;> simp_all

theorem fixDigits_ne_nil {p : Nat} (hp : p ≠ 0) (k : Nat) : fixDigits p k ≠ [] := by
  cases p <;> simp_all [fixDigits]

theorem fixDigits_snoc (p k : Nat) :
    fixDigits (p + 1) k = fixDigits p (k / 10) ++ [digitOf (k % 10)] := by
  induction p generalizing k with
  | zero => simp [fixDigits, pow10]
  | succ p ih =>
    rw [fixDigits, ih, fixDigits, pow10, Nat.mod_mul_right_div_self, Nat.mod_mul_right_mod,
      ← Nat.div_div_eq_div_mul]
    rfl

theorem digitsValAcc_fixDigits (p k a : Nat) (h : k < pow10 p) :
    digitsValAcc a (fixDigits p k) = some (a * pow10 p + k) := by
  induction p generalizing k with
  | zero => simp only [pow10] at h; simp [fixDigits, digitsValAcc, pow10]; omega
  | succ p ih =>
    simp only [pow10] at h ⊢
    rw [fixDigits_snoc, digitsValAcc_append, ih _ (by omega)]
    simp only [Option.bind_some, digitsValAcc, digitVal_digitOf (Nat.mod_lt k (by decide)),
      Option.some.injEq]
    rw [Nat.mul_left_comm]; omega

theorem digitsValAcc_zeros (a n : Nat) : digitsValAcc a (List.replicate n '0') = some (a * pow10 n) := by
  induction n generalizing a with
  | zero => simp [digitsValAcc, pow10]
  | succ n ih => simp [List.replicate_succ, digitsValAcc, digitVal, ih, pow10, Nat.mul_assoc]

theorem pad2_eq_fix2 (n : Nat) : pad2 n = fixDigits 2 n := by
  simp [pad2, fixDigits, pow10]

/-- on a string of digits Python's `int` is the decimal value; `prev` says that a digit came before -/
theorem pyDigitsGo_digits (a : Nat) (prev : Bool) (s : List Char) (h : Digits s)
    (hs : prev = true ∨ s ≠ []) : pyDigitsGo a prev s = digitsValAcc a s := by
  induction s generalizing a prev with
  | nil => simp_all [pyDigitsGo, digitsValAcc]
  | cons c cs ih =>
    obtain ⟨d, hd⟩ := Option.isSome_iff_exists.mp (h c (by simp))
    simp only [pyDigitsGo, digitsValAcc, hd]
    exact ih _ _ (fun x hx => h x (by simp [hx])) (.inl rfl)

theorem pyInt_digits (s : List Char) (h : Digits s) (hne : s ≠ []) :
    pyInt s = (digitsValAcc 0 s).map Int.ofNat := by
  rw [← pyDigitsGo_digits 0 false s h (.inr hne)]
  fun_cases pyInt s
  · -- a leading '+'
    exact absurd rfl (isDigit_props (h _ (by simp))).plus
  · -- a leading '-'
    exact absurd rfl (isDigit_props (h _ (by simp))).minus
  · rfl

theorem digitOf_lt {k1 k2 : Nat} (h : k1 < k2) (h2 : k2 < 10) : digitOf k1 < digitOf k2 :=
  (by decide : ∀ k2 < 10, ∀ k1 < k2, digitOf k1 < digitOf k2) k2 h2 k1 h

theorem fixDigits_lt (p : Nat) {k1 k2 : Nat} {x y : List Char} (h2 : k2 < pow10 p)
    (h : k1 < k2 ∨ k1 = k2 ∧ x < y) : fixDigits p k1 ++ x < fixDigits p k2 ++ y := by
  induction p generalizing k1 k2 x y with
  | zero =>
    simp only [pow10] at h2
    exact h.elim (by omega) (·.2)
  | succ p ih =>
    -- the last digit joins the text that follows
    simp only [pow10] at h2
    rw [fixDigits_snoc, fixDigits_snoc, List.append_assoc, List.append_assoc]
    refine ih (by omega) ?_
    rcases h with h | ⟨rfl, h⟩
    · by_cases hq : k1 / 10 < k2 / 10
      · exact .inl hq
      · exact .inr ⟨by omega, List.Lex.rel (digitOf_lt (by omega) (by omega))⟩
    · exact .inr ⟨rfl, List.Lex.cons h⟩

theorem natDigits_eq_fix (p n : Nat) (h1 : pow10 p ≤ n) (h2 : n < pow10 (p + 1)) :
    natDigits n = fixDigits (p + 1) n := by
  induction p generalizing n with
  | zero =>
    have h2 : n < 10 := h2
    rw [natDigits_rec, if_pos h2]
    simp [fixDigits, pow10, Nat.mod_eq_of_lt h2]
  | succ p ih =>
    simp only [pow10] at h1 h2
    rw [natDigits_rec, if_neg (by omega), fixDigits_snoc, ih _ (by omega) (by simp only [pow10]; omega)]

end Cpppo.Times
