import Cpppo.Model.Times

/-! C17: zone tables, the preimages of a wall second, `localize`. -/
-- what `parse` answers is compared by `decide` in the examples of Props/C17
deriving instance DecidableEq for Except

namespace Cpppo.Times

theorem transWf_cons (c : Int) (g : Option Int) (t : Int) (p : Period) (rest : List (Int × Period)) :
    transWf c g ((t, p) :: rest) = true ↔
      (∀ h, g = some h → h ≤ t + min c p.off) ∧ transWf p.off (some (t + max c p.off)) rest = true := by
  cases g <;> simp [transWf]

/-- a table whose confusion intervals all begin at or after `h` has them begin after any earlier `h'` -/
theorem transWf_guard {c h h' : Int} {T : List (Int × Period)} (hwf : transWf c (some h) T = true)
    (hle : h' ≤ h) : transWf c (some h') T = true := by
  cases T with
  | nil => rfl
  | cons tp rest =>
    obtain ⟨t, p⟩ := tp
    rw [transWf_cons] at hwf ⊢
    exact ⟨fun _ e => by cases e; have := hwf.1 _ rfl; omega, hwf.2⟩

/-- one step of the fold-1 walk (the fold-0 walk is followed by `fun_induction` in `situation`) -/
theorem walkW_true_cons (cur : Period) (t : Int) (p : Period) (rest : List (Int × Period)) (w : Int) :
    walkW true cur ((t, p) :: rest) w = if t + min cur.off p.off ≤ w then walkW true p rest w else cur :=
  rfl

/-- A wall second `w` before every confusion interval of the table, which is what the guard `w + 1`
says: the fold-1 walk stays in the current period, and `w - cur.off` is its only preimage.
(Nothing about the fold-0 walk: `situation`, the only user, walks that one itself.) -/
theorem before_first (w : Int) (cur : Period) (T : List (Int × Period))
    (h : transWf cur.off (some (w + 1)) T = true) :
    walkW true cur T w = cur ∧ walkU cur T (w - cur.off) = cur ∧
    ∀ u, u + (walkU cur T u).off = w → u = w - cur.off := by
  induction T generalizing cur with
  | nil => exact ⟨rfl, rfl, fun u (hu : u + cur.off = w) => by omega⟩
  | cons tp rest ih =>
    obtain ⟨t, p⟩ := tp
    rw [transWf_cons] at h
    have h1 := h.1 _ rfl
    obtain ⟨-, -, hrest⟩ := ih p (transWf_guard h.2 (by omega))
    refine ⟨?_, ?_, fun u hu => ?_⟩
    · rw [walkW_true_cons, if_neg (by omega)]
    · simp only [walkU]; rw [if_neg (by omega)]
    · simp only [walkU] at hu
      split at hu
      · have := hrest u hu; omega
      · omega

/-- The preimages of a wall second `w`, in a table whose period at UTC second `u` is `U u` and whose
fold-0 and fold-1 wall periods at `w` are `P0` and `P1`: none when `P0.off < P1.off` (a gap), else
`w - P0.off` and `w - P1.off` (one second, or the two of an overlap). -/
structure Situation (U : Int → Period) (P0 P1 : Period) (w : Int) : Prop where
  pre : ∀ u, u + (U u).off = w → P1.off ≤ P0.off ∧ (u = w - P0.off ∨ u = w - P1.off)
  per : P1.off ≤ P0.off → U (w - P0.off) = P0 ∧ U (w - P1.off) = P1

/-- the situation depends on the period function at the preimages of `w` only -/
theorem Situation.congr {U U' : Int → Period} {P0 P1 : Period} {w : Int}
    (h : ∀ u, u + (U u).off = w ∨ u + (U' u).off = w → U' u = U u) (s : Situation U P0 P1 w) :
    Situation U' P0 P1 w := by
  have per : ∀ P : Period, U (w - P.off) = P → U' (w - P.off) = P := fun P hP => by
    rw [h _ (.inl (by rw [hP]; omega)), hP]
  exact ⟨fun u hu => s.pre u (h u (.inr hu) ▸ hu), fun hle => ⟨per _ (s.per hle).1, per _ (s.per hle).2⟩⟩

/-- `g` is arbitrary only for the induction: the rest of a table has a guard, the whole zone has none. -/
theorem situation (w : Int) (cur : Period) (g : Option Int) (T : List (Int × Period))
    (hwf : transWf cur.off g T = true) :
    Situation (walkU cur T) (walkW false cur T w) (walkW true cur T w) w := by
  fun_induction walkW false cur T w generalizing g
  next cur w =>
    -- no transition
    exact ⟨fun u (hu : u + cur.off = w) => ⟨Int.le_refl _, .inl (show u = w - cur.off by omega)⟩,
      fun _ => ⟨rfl, rfl⟩⟩
  next cur t p rest w ha ih =>
    -- both folds step over the transition, and no UTC second before it is a preimage in either table
    replace ha : t + max cur.off p.off ≤ w := ha
    rw [transWf_cons] at hwf
    rw [walkW_true_cons, if_pos (by omega)]
    refine (ih _ hwf.2).congr fun u hu => ?_
    simp only [walkU] at hu ⊢
    by_cases ht : t ≤ u
    · exact if_pos ht
    · have := (before_first (u + p.off) p rest (transWf_guard hwf.2 (by omega))).2.1
      rw [Int.add_sub_cancel] at this
      rw [if_neg ht, this] at hu
      exfalso; omega
  next cur t p rest w ha =>
    -- the fold-0 walk stops at `cur`
    replace ha : ¬ t + max cur.off p.off ≤ w := ha
    rw [transWf_cons] at hwf
    obtain ⟨e1, hper, hrest⟩ := before_first w p rest (transWf_guard hwf.2 (by omega))
    -- a preimage lies in the new period at or after `t`, or in the current one before `t`
    have hpre : ∀ u, u + (walkU cur ((t, p) :: rest) u).off = w →
        t ≤ u ∧ u = w - p.off ∨ ¬ t ≤ u ∧ u = w - cur.off := by
      intro u hu
      simp only [walkU] at hu
      split at hu
      · exact .inl ⟨‹_›, hrest u hu⟩
      · exact .inr ⟨‹_›, by omega⟩
    rw [walkW_true_cons]
    by_cases hb : t + min cur.off p.off ≤ w
    · -- inside the confusion interval of this transition: a gap or an overlap
      rw [if_pos hb, e1]
      refine ⟨fun u hu => by have := hpre u hu; omega, fun _ => ⟨?_, ?_⟩⟩
      · simp only [walkU]; rw [if_neg (by omega)]
      · simp only [walkU]; rw [if_pos (by omega), hper]
    · rw [if_neg hb]
      refine ⟨fun u hu => by have := hpre u hu; omega, fun _ => ⟨?_, ?_⟩⟩ <;>
        (simp only [walkU]; rw [if_neg (by omega)])

/-- `u` is a UTC second whose local time in zone `z` is the wall-clock second `w` -/
def IsPre (z : Zone) (w u : Int) : Prop := u + (periodAt z u).off = w

/-- the year of UTC second `u` is one `datetime` can hold -/
def InRange (u : Int) : Prop := 1 ≤ (civilOfSecs u).y ∧ (civilOfSecs u).y ≤ 9999

instance (u : Int) : Decidable (InRange u) := by unfold InRange; infer_instance

theorem inRange_iff (u : Int) :
    ((civilOfSecs u).y < 1 || (civilOfSecs u).y > 9999) = false ↔ InRange u := by
  simp only [InRange, Bool.or_eq_false_iff, decide_eq_false_iff_not, Int.not_lt, gt_iff_lt]

theorem localize_out_of_range (z : Zone) (flag : Option Bool) (w : Int)
    (hr : ¬ InRange (w - (wallPeriod false z w).off)) : localize z flag w = .error .value := by
  rw [← inRange_iff, Bool.not_eq_false] at hr
  simp only [localize, hr, if_true]

theorem localize_range (z : Zone) (flag : Option Bool) (w u : Int) (h : localize z flag w = .ok u) :
    InRange (w - (wallPeriod false z w).off) :=
  Decidable.byContradiction fun hr => by rw [localize_out_of_range z flag w hr] at h; cases h

/-- unconditionally: what `localize` returns for an undesignated zone is a preimage of the wall time -/
theorem localize_sound (z : Zone) (w u : Int) (h : localize z none w = .ok u) : IsPre z w u := by
  simp only [localize] at h
  split at h
  · cases h  -- out of range
  · split at h
    · cases h  -- nonexistent
    · rename_i himg
      split at h
      · cases h  -- ambiguous
      · cases h  -- accepted: the answer is `w - p0.off`, and `himg` says it is not imaginary
        simpa [IsPre] using himg

theorem isPre_of_periodAt {z : Zone} {w : Int} {P : Period} (h : periodAt z (w - P.off) = P) :
    IsPre z w (w - P.off) := by
  unfold IsPre; rw [h]; omega

/-- the three possible situations of a wall second `w` in a zone, and what `localize` answers in each -/
inductive Localized (z : Zone) (w : Int) : Prop where
  | unique (u : Int) (hpre : IsPre z w u) (huniq : ∀ u', IsPre z w u' → u' = u)
      (hloc : ∀ flag, localize z flag w = .ok u)
  | gap (hnone : ∀ u, ¬ IsPre z w u) (hloc : localize z none w = .error .nonexistent)
  | overlap (hoff : (wallPeriod true z w).off < (wallPeriod false z w).off)
      (hper0 : periodAt z (w - (wallPeriod false z w).off) = wallPeriod false z w)
      (hper1 : periodAt z (w - (wallPeriod true z w).off) = wallPeriod true z w)
      (hall : ∀ u, IsPre z w u → u = w - (wallPeriod false z w).off ∨ u = w - (wallPeriod true z w).off)
      (hloc : localize z none w = .error .ambiguous)
      (hflag : ∀ flag, localize z (some flag) w = .ok
        (if flag == (if (wallPeriod false z w).dst == (wallPeriod true z w).dst
                     then decide ((wallPeriod true z w).off > (wallPeriod false z w).off)
                     else (wallPeriod true z w).dst)
         then w - (wallPeriod true z w).off else w - (wallPeriod false z w).off))

theorem localized (z : Zone) (hwf : z.wf = true) (w : Int) (hr : InRange (w - (wallPeriod false z w).off)) :
    Localized z w := by
  have hr' := (inRange_iff _).2 hr
  have s : Situation (periodAt z) (wallPeriod false z w) (wallPeriod true z w) w :=
    situation w z.first none z.trans hwf
  rcases Int.lt_trichotomy (wallPeriod false z w).off (wallPeriod true z w).off with hoff | hoff | hoff
  · have hnone : ∀ u, ¬ IsPre z w u := fun u hu => by have := (s.pre u hu).1; omega
    refine .gap hnone ?_
    have := hnone (w - (wallPeriod false z w).off)
    unfold IsPre at this
    simp [localize, hr', this]
  · have hpre := isPre_of_periodAt (s.per (by omega)).1
    refine .unique _ hpre (fun u hu => by have := (s.pre u hu).2; omega) fun flag => ?_
    unfold IsPre at hpre
    cases flag <;> simp [localize, hr', hoff.symm, hpre]
  · obtain ⟨hper0, hper1⟩ := s.per (by omega)
    have hpre0 := isPre_of_periodAt hper0
    unfold IsPre at hpre0
    have hne : (wallPeriod false z w).off ≠ (wallPeriod true z w).off := by omega
    refine .overlap hoff hper0 hper1 (fun u hu => (s.pre u hu).2) ?_ (fun flag => ?_) <;>
      simp [localize, hr', hpre0, hne]

theorem localize_utc (flag : Option Bool) (w : Int) (hr : InRange w) : localize utcZone flag w = .ok w := by
  have hr' := (inRange_iff _).2 hr
  cases flag <;> simp [localize, wallPeriod, walkW, periodAt, walkU, utcZone, utcPeriod, hr']

end Cpppo.Times
