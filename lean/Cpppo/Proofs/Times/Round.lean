import Cpppo.Model.Times

/-! C17: `roundTo p` answers a multiple of the quantum `10^(6-p)` µs within half a quantum of its argument
(`roundTo_spec`); the fraction digits that `render` prints for such a multiple `k * 10^(6-p)` are `k % 10^p`
(`frac_of_quantum`), which orders them like the instants within one second. -/

namespace Cpppo.Times

theorem pow10_pos (p : Nat) : 0 < pow10 p := by
  induction p with
  | zero => simp [pow10]
  | succ p ih => simp only [pow10]; omega

theorem pow10_int_pos (p : Nat) : (0 : Int) < (pow10 p : Nat) := Int.natCast_pos.mpr (pow10_pos p)

theorem pow10_six (p : Nat) (hp : p ≤ 6) : pow10 p * pow10 (6 - p) = 1000000 := by
  have : p = 0 ∨ p = 1 ∨ p = 2 ∨ p = 3 ∨ p = 4 ∨ p = 5 ∨ p = 6 := by omega
  rcases this with rfl | rfl | rfl | rfl | rfl | rfl | rfl <;> rfl

theorem roundTo_spec (p : Nat) (μ bias : Int) :
    ∃ k : Int, roundTo p μ bias = k * (pow10 (6 - p) : Nat) ∧
      2 * (roundTo p μ bias - μ) ≤ (pow10 (6 - p) : Nat) ∧ 2 * (μ - roundTo p μ bias) ≤ (pow10 (6 - p) : Nat) := by
  have hq := pow10_int_pos (6 - p)
  -- `μ = lo * q + r` with `0 ≤ r < q`, and every branch answers `lo * q` or `(lo + 1) * q`
  have e := Int.ediv_mul_add_emod μ (pow10 (6 - p) : Nat)
  have r0 := Int.emod_nonneg μ (Int.ne_of_gt hq)
  have r1 := Int.emod_lt_of_pos μ hq
  fun_cases roundTo p μ bias
  -- in each branch name divisor, quotient and remainder, so that `omega` sees no `/` or `%` by a variable
  all_goals
    simp +zetaDelta only at *
    generalize ((pow10 (6 - p) : Nat) : Int) = q at *
    generalize μ / q = lo at *
    generalize μ % q = r at *
    -- the one product `omega` cannot expand itself
    have e1 : (lo + 1) * q = lo * q + q := by rw [Int.add_mul, Int.one_mul]
    exact ⟨_, rfl, by omega⟩

/-- `k * 10^(6-p)` is the shape in which `roundTo_spec` delivers a rounded instant -/
theorem quantum_emod (p : Nat) (hp : p ≤ 6) (k : Int) :
    k * (pow10 (6 - p) : Nat) % 1000000 = k % (pow10 p : Nat) * (pow10 (6 - p) : Nat) := by
  have h6 : (1000000 : Int) = (pow10 (6 - p) : Nat) * (pow10 p : Nat) := by
    rw [← Int.natCast_mul, Nat.mul_comm, pow10_six p hp]; rfl
  rw [h6, Int.mul_comm k, Int.mul_emod_mul_of_pos _ _ (pow10_int_pos _), Int.mul_comm]

/-- the `p` fraction digits of the instant `k * 10^(6-p)` µs, read as a number -/
theorem frac_of_quantum (p : Nat) (hp : p ≤ 6) (k : Int) :
    (((k * (pow10 (6 - p) : Nat) % 1000000).toNat / pow10 (6 - p) : Nat) : Int) = k % (pow10 p : Nat) := by
  have hQ := pow10_int_pos (6 - p)
  have hP := Int.ne_of_gt (pow10_int_pos p)
  rw [Int.natCast_ediv, quantum_emod p hp,
    Int.toNat_of_nonneg (Int.mul_nonneg (Int.emod_nonneg _ hP) (Int.le_of_lt hQ)),
    Int.mul_ediv_cancel _ (Int.ne_of_gt hQ)]

/-- fraction digits of two rendered instants within the same second are ordered like the instants -/
theorem roundTo_frac_lt (p : Nat) (hp : p ≤ 6) (a b ba bb : Int)
    (hlt : roundTo p a ba < roundTo p b bb)
    (hs : roundTo p a ba / 1000000 = roundTo p b bb / 1000000) :
    (roundTo p a ba % 1000000).toNat / pow10 (6 - p) < (roundTo p b bb % 1000000).toNat / pow10 (6 - p) := by
  obtain ⟨k1, hk1, -⟩ := roundTo_spec p a ba
  obtain ⟨k2, hk2, -⟩ := roundTo_spec p b bb
  rw [hk1, hk2] at hlt hs ⊢
  apply Int.ofNat_lt.mp
  rw [frac_of_quantum p hp, frac_of_quantum p hp]
  -- the sub-second parts are ordered, and they are the fraction digits times the quantum
  have h : k1 * (pow10 (6 - p) : Nat) % 1000000 < k2 * (pow10 (6 - p) : Nat) % 1000000 := by omega
  rw [quantum_emod p hp, quantum_emod p hp] at h
  exact Int.lt_of_mul_lt_mul_right h (Int.le_of_lt (pow10_int_pos _))

end Cpppo.Times
