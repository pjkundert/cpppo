import Cpppo.Model.Serve
import Batteries.Data.List.Perm
import Mathlib.Data.List.ProdSigma

/-! The no-progress detection (`seen` crumbs) bounds the number of passes of a machine level. -/
namespace Cpppo.Serve

/-- distinct crumbs (state < S, position ≤ L) number at most S·(L+1) -/
theorem crumbs_pigeonhole (S L : Nat) (l : List (Nat × Nat)) (hn : l.Nodup) (hv : ∀ x ∈ l, x.1 < S ∧ x.2 ≤ L) :
    l.length ≤ S * (L + 1) := by
  have hsub : l ⊆ (List.range S) ×ˢ (List.range (L + 1)) := by
    intro x hx
    obtain ⟨h1, h2⟩ := hv x hx
    obtain ⟨a, b⟩ := x
    rw [List.mem_product]
    exact ⟨List.mem_range.mpr h1, List.mem_range.mpr (by simpa using Nat.lt_succ_of_le h2)⟩
  have := (List.subperm_of_subset hn hsub).length_le
  simpa [List.length_product] using this

theorem Machine.next_valid {m : Machine} {input : List Nat} {c c' : Nat × Nat} (h : m.next input c = some c') :
    c'.1 < m.nstates ∧ c'.2 ≤ input.length := by
  revert h
  fun_cases Machine.next m input c
  all_goals intro h
  all_goals cases h
  assumption

/-- passes made + crumbs already seen never exceed the number of possible crumbs (+1 for the pass that
comes to a seen crumb) -/
theorem runCrumbs_le (m : Machine) (input : List Nat) (fuel : Nat) (seen : List (Nat × Nat)) (c : Nat × Nat)
    (hn : seen.Nodup) (hv : ∀ x ∈ seen, x.1 < m.nstates ∧ x.2 ≤ input.length) :
    (runCrumbs m input fuel seen c).passes + seen.length ≤ m.nstates * (input.length + 1) + 1 := by
  have hp := crumbs_pigeonhole _ _ seen hn hv
  -- the branches of `runCrumbs`: fuel spent; no transition; a crumb seen before; a new crumb `c'`, and on from there
  fun_induction runCrumbs m input fuel seen c
  · simp only; omega
  · simp only; omega
  · simp only; omega
  · rename_i seen _ c' hnx hc _ ih
    have hn' : (c' :: seen).Nodup := List.nodup_cons.mpr ⟨by simpa using hc, hn⟩
    have hv' : ∀ x ∈ c' :: seen, x.1 < m.nstates ∧ x.2 ≤ input.length :=
      List.forall_mem_cons.mpr ⟨Machine.next_valid hnx, hv⟩
    have := ih hn' hv' (crumbs_pigeonhole _ _ _ hn' hv')
    simp +zetaDelta only [List.length_cons] at this ⊢
    omega

theorem runCrumbs_fuel (m : Machine) (input : List Nat) (fuel : Nat) (seen : List (Nat × Nat)) (c : Nat × Nat)
    (h : (runCrumbs m input fuel seen c).stop = .fuel) : (runCrumbs m input fuel seen c).passes = fuel := by
  revert h
  fun_induction runCrumbs m input fuel seen c
  all_goals intro h
  · rfl
  · cases h
  · cases h
  · rename_i ih
    simp +zetaDelta only at h ⊢
    rw [ih h]

/-- with that much fuel the loop has ended by itself: it cannot have made that many passes -/
theorem runCrumbs_stops (m : Machine) (input : List Nat) (fuel : Nat) (seen : List (Nat × Nat)) (c : Nat × Nat)
    (hn : seen.Nodup) (hv : ∀ x ∈ seen, x.1 < m.nstates ∧ x.2 ≤ input.length)
    (hf : m.nstates * (input.length + 1) + 1 < fuel + seen.length) :
    (runCrumbs m input fuel seen c).stop ≠ .fuel := by
  intro h
  have := runCrumbs_le m input fuel seen c hn hv
  rw [runCrumbs_fuel m input fuel seen c h] at this
  omega

end Cpppo.Serve
