import Cpppo.Proofs.ConcurrentArr
import Cpppo.Proofs.Exec

/-! The Logix instance (`execLgx`): every tag request is at most ONE slice operation on ONE tag's array
(the model-level counterpart of the structural check "exactly one storage access per accepted request"). -/
namespace Cpppo.Concurrent
open Cpppo.Logix

/-- what the tag request `execTag …` does to the tag arrays of the device -/
def OneArrayOp (d : Dev) (r : Dev × Reply) : Prop :=
  -- refused: no access, the device is untouched, an error status is returned
  (r.1 = d ∧ r.2.status ≠ 0 ∧ r.2.status ≠ 6)
  -- ONE slice read of one tag: the device is untouched, the reply carries `vals[beg, beg+k)`
  ∨ (∃ c i a tag beg k, d.attr? c i a = some tag ∧ r.1 = d ∧ (r.2.status = 0 ∨ r.2.status = 6)
        ∧ r.2.vals = (tag.vals.drop beg).take k)
  -- ONE slice assignment to one tag (a scalar: its single element): nothing else changes
  ∨ (∃ c i a tag beg w, d.attr? c i a = some tag ∧ r.2.status = 0
        ∧ r.1 = d.setAttr c i a { tag with vals := if tag.scalar then w.take 1 else spliceAt tag.vals beg w })

theorem execTag_one_array_op (d : Dev) (self : Nat × Nat) (svc : Nat) (isRead isFrag : Bool) (p : Path)
    (reqTy n off : Nat) (data : Bytes) :
    OneArrayOp d (execTag d self svc isRead isFrag p reqTy n off data) := by
  generalize hx : execTag d self svc isRead isFrag p reqTy n off data = x
  cases execTag_outcome hx with
  | failed st ext h => rcases h with rfl | rfl <;> exact .inl ⟨rfl, nofun, nofun⟩
  | read hr _ hacc =>
    obtain ⟨beg, k, -, -, -, -, hv, hst, -⟩ := tagAccess_read_inv hacc
    exact .inr (.inl ⟨_, _, _, _, beg, k, (resolveTag_some hr).1, rfl, hst, hv⟩)
  | wrote hr _ _ hacc =>
    obtain ⟨beg, -, -, -, -, rfl⟩ := tagAccess_wrote_inv hacc
    exact .inr (.inr ⟨_, _, _, _, beg, _, (resolveTag_some hr).1, rfl, rfl⟩)

/-- the four tag services -/
def isTagRequest : Simple → Bool
  | .readTag .. | .readFrag .. | .writeTag .. | .writeFrag .. => true
  | _ => false

theorem execSimple_one_array_op (d : Dev) (s : Simple) (hs : isTagRequest s = true) :
    OneArrayOp d (execSimple d s) := by
  unfold execSimple execSimpleAt
  cases s <;> simp [isTagRequest] at hs <;> exact execTag_one_array_op ..

end Cpppo.Concurrent
