import Cpppo.Proofs.SrvServe
/-! Forward Open / connected requests / Forward Close through the server model. -/
namespace Cpppo.Interop
open Cpppo Cpppo.Logix Cpppo.Fields

theorem encConnPath_some {ports : List (Nat × Nat)} {target : Path} {cp : Bytes}
    (h : Ref.encConnPath ports target = some cp) :
    ∃ a b, Ref.encPorts ports = some a ∧ Ref.encSegs target = some b ∧ cp = a ++ b ∧ cp.length < 512
      ∧ cp.length % 2 = 0 := by
  revert h
  fun_cases Ref.encConnPath ports target <;> intro h <;> cases h
  rename_i a b hsegs hports hl
  refine ⟨a, b, hports, hsegs, rfl, hl, ?_⟩
  have h1 := encPorts_length hports
  have h2 := encSegs_even hsegs
  simp only [List.length_append]; omega

theorem parseEpath_connPath (padded : Bool) {ports : List (Nat × Nat)} {target : Path} {cp : Bytes} (rest : Bytes)
    (h : Ref.encConnPath ports target = some cp) :
    Srv.parseEpath padded ((cp.length / 2) :: ((if padded then [0] else []) ++ cp ++ rest))
      = some (portSegs ports ++ target.map segOf, rest) := by
  obtain ⟨a, b, ha, hb, rfl, hl, hev⟩ := encConnPath_some h
  have h2 : 2 * ((a ++ b).length / 2) = (a ++ b).length := by omega
  have hp := parseSegs_ports b _ ha (parseSegs_encSegs hb) _ (Nat.le_refl _)
  cases padded <;>
    simp only [Bool.false_eq_true, ↓reduceIte, List.nil_append, List.cons_append, Srv.parseEpath, Srv.skip1, h2,
      take_append _ (a ++ b) rest rfl, hp]

/-- what the Connection Manager's parser makes of the reference Forward Open (reducible, for `rw` to see through its
projections inside the `Decidable` instances of `forwardOpen`) -/
@[reducible] def foReqOf (fo : Ref.FwdOpen) : Srv.FoReq :=
  { svc := if fo.large then 0x5B else 0x54, otId := fo.otId, toId := fo.toId, serial := fo.serial,
    vendor := fo.vendor, oserial := fo.oserial, otRpi := fo.otRpi, otNcp := fo.otNcp, toRpi := fo.toRpi,
    toNcp := fo.toNcp, tct := fo.tct, cpath := portSegs fo.ports ++ fo.target.map segOf }

/-- Forward Open layout (Vol 1 3-5.5.2); the network connection parameters take 16 bits (small) or 32 bits (large) -/
theorem encFwdOpen_some {fo : Ref.FwdOpen} {b : Bytes} (h : Ref.encFwdOpen fo = some b) :
    ∃ cp, Ref.encConnPath fo.ports fo.target = some cp ∧
      b = [if fo.large then 0x5B else 0x54, 0x02, 0x20, 0x06, 0x24, 0x01, fo.prio, fo.ticks]
        ++ Bytes.le 4 fo.otId ++ Bytes.le 4 fo.toId ++ Bytes.le 2 fo.serial ++ Bytes.le 2 fo.vendor
        ++ Bytes.le 4 fo.oserial ++ [fo.mult, 0, 0, 0]
        ++ Bytes.le 4 fo.otRpi ++ Bytes.le (if fo.large then 4 else 2) fo.otNcp
        ++ Bytes.le 4 fo.toRpi ++ Bytes.le (if fo.large then 4 else 2) fo.toNcp
        ++ [fo.tct, cp.length / 2] ++ cp
      ∧ (fo.prio < 256 ∧ fo.ticks < 256 ∧ fo.otId < 4294967296 ∧ fo.toId < 4294967296 ∧ fo.serial < 65536
        ∧ fo.vendor < 65536 ∧ fo.oserial < 4294967296 ∧ fo.mult < 256 ∧ fo.otRpi < 4294967296
        ∧ fo.toRpi < 4294967296 ∧ fo.otNcp < 256 ^ (if fo.large then 4 else 2)
        ∧ fo.toNcp < 256 ^ (if fo.large then 4 else 2) ∧ fo.tct < 256) := by
  unfold Ref.encFwdOpen at h
  split at h
  · cases h
  · simp only [Option.ite_none_right_eq_some, Option.some.injEq] at h
    exact ⟨_, ‹_›, h.2.symm, h.1⟩

theorem parseFwdOpen_enc {fo : Ref.FwdOpen} {b : Bytes} (h : Ref.encFwdOpen fo = some b) :
    Srv.parseFwdOpen b = some (foReqOf fo) := by
  obtain ⟨cp, hcp, rfl, _, _, hotId, htoId, hserial, hvendor, hoserial, _, hotRpi, htoRpi, hotNcp, htoNcp, _⟩ :=
    encFwdOpen_some h
  have hpath := parseEpath_connPath false [] hcp
  simp only [Bool.false_eq_true, ↓reduceIte, List.nil_append, List.append_nil] at hpath
  -- the parser takes the width of the NCP fields from the service code
  have hw : (if (if fo.large then 0x5B else 0x54) = Generated.iopSvcFwdOpenLarge then 4 else 2)
      = (if fo.large then 4 else 2) := by cases fo.large <;> rfl
  have hmult : ∀ rest : Bytes, take 4 (fo.mult :: 0 :: 0 :: 0 :: rest) = some ([fo.mult, 0, 0, 0], rest) :=
    fun rest => take_append 4 [fo.mult, 0, 0, 0] rest rfl
  simp only [List.cons_append, List.nil_append, List.append_assoc, Srv.parseFwdOpen, cmPath_parse, u1_cons, hw,
    u_le, Nat.reducePow, hotId, htoId, hserial, hvendor, hoserial, hotRpi, htoRpi, hotNcp, htoNcp, hmult, hpath]

/-- the entry `forward_open` files for a new connection -/
def fwdEntry (fo : Ref.FwdOpen) (otId : Nat) : Srv.Fwd :=
  { connId := otId, serial := fo.serial, otNcp := Srv.ncpNorm fo.large fo.otNcp, otRpi := fo.otRpi,
    toNcp := Srv.ncpNorm fo.large fo.toNcp, toRpi := fo.toRpi, tct := fo.tct,
    cpath := portSegs fo.ports ++ fo.target.map segOf }

/-- the ids the target answers with: it picks the O->T id of a point-to-point connection and the T->O id
of a multicast connection -/
def foOtId (fo : Ref.FwdOpen) (rnd : Srv.Rnd) : Nat := if Srv.ncpType fo.large fo.otNcp = 2 then rnd.otId else fo.otId
def foToId (fo : Ref.FwdOpen) (rnd : Srv.Rnd) : Nat := if Srv.ncpType fo.large fo.toNcp = 1 then rnd.toId else fo.toId

def foOkBytes (fo : Ref.FwdOpen) (rnd : Srv.Rnd) : Bytes :=
  [(if fo.large then 0x5B else 0x54) + 128, 0, 0, 0] ++ Bytes.le 4 (foOtId fo rnd) ++ Bytes.le 4 (foToId fo rnd)
    ++ Bytes.le 2 fo.serial ++ Bytes.le 2 fo.vendor ++ Bytes.le 4 fo.oserial ++ Bytes.le 4 fo.otRpi
    ++ Bytes.le 4 fo.toRpi ++ [0, 0]

/-- a Forward Open with non-zero connection sizes and a fresh connection id is accepted -/
def FoAccepted (st : Srv.St) (rnd : Srv.Rnd) (fo : Ref.FwdOpen) : Prop :=
  Srv.ncpSize fo.large fo.otNcp ≠ 0 ∧ Srv.ncpSize fo.large fo.toNcp ≠ 0 ∧
    st.fwds.find? (fun f => f.connId == foOtId fo rnd) = none

theorem forwardOpen_accepted {st : Srv.St} {rnd : Srv.Rnd} {fo : Ref.FwdOpen} (hacc : FoAccepted st rnd fo) :
    Srv.forwardOpen st rnd (foReqOf fo) =
      ({ st with fwds := st.fwds ++ [fwdEntry fo (foOtId fo rnd)] }, foOkBytes fo rnd) := by
  obtain ⟨h1, h2, h3⟩ := hacc
  have hlarge : ((foReqOf fo).svc == Generated.iopSvcFwdOpenLarge) = fo.large := by
    cases h : fo.large <;> simp [h, Generated.iopSvcFwdOpenLarge]
  have hsz : ¬ (Srv.ncpSize fo.large fo.otNcp = 0 ∨ Srv.ncpSize fo.large fo.toNcp = 0) := by omega
  unfold foOtId at h3
  unfold Srv.forwardOpen
  rw [hlarge]
  dsimp only [foReqOf]
  rw [if_neg hsz, h3]
  rfl

/-- a request that carries the Connection Manager's path and is not an Unconnected Send is served by `cmService` -/
theorem serve_cm {st st' : Srv.St} {rnd : Srv.Rnd} {c : Ref.Ctx} {timeout svc : Nat} {b rest fr rep : Bytes}
    (hc : CtxOk c = true) (hb : b = svc :: 0x02 :: 0x20 :: 0x06 :: 0x24 :: 0x01 :: rest) (hsvc : svc ≠ 0x52 ∧ svc ≠ 0x52 + 128)
    (henc : Ref.encRR c timeout b = some fr) (hcm : Srv.cmService st rnd b = (st', some rep)) :
    Srv.serve st rnd fr = (st', .reply (rrFrame c timeout rep)) := by
  refine serve_rr (un := .bare b) hc henc ?_ (.inl rfl) ?_ <;> subst hb
  · simp [Srv.parseUnconn, Generated.iopUnconnectedSend, hsvc]
  · unfold Srv.cmRequest
    simp only [Option.bind_none, cmPath_parse, Option.map_some, Srv.targetOf, resolve_cm, Srv.cm,
      Generated.iopCmClass, true_or, ↓reduceIte, hcm]

/-- the values the server draws fit their fields -/
def RndOk (rnd : Srv.Rnd) : Prop := rnd.session < 4294967296 ∧ rnd.otId < 4294967296 ∧ rnd.toId < 4294967296

theorem decCip_foOk {fo : Ref.FwdOpen} {rnd : Srv.Rnd} {b : Bytes} (h : Ref.encFwdOpen fo = some b) (hr : RndOk rnd) :
    Ref.decCip (foOkBytes fo rnd) = some (.fwdOpen
      { svc := (if fo.large then 0x5B else 0x54) + 128, status := 0, otId := foOtId fo rnd, toId := foToId fo rnd,
        serial := fo.serial, vendor := fo.vendor, oserial := fo.oserial, otApi := fo.otRpi, toApi := fo.toRpi }) := by
  obtain ⟨_, _, _, _, _, hotId, htoId, hserial, hvendor, hoserial, _, hotRpi, htoRpi, _⟩ := encFwdOpen_some h
  obtain ⟨_, r2, r3⟩ := hr
  have i1 : foOtId fo rnd < 4294967296 := by unfold foOtId; split <;> assumption
  have i2 : foToId fo rnd < 4294967296 := by unfold foToId; split <;> assumption
  have hsvc : (if fo.large then 0x5B else 0x54) + 128 = 0xD4 ∨ (if fo.large then 0x5B else 0x54) + 128 = 0xDB := by
    cases fo.large <;> simp
  simp only [foOkBytes, List.cons_append, List.nil_append, List.append_assoc, Ref.decCip, hsvc, ↓reduceIte,
    Ref.decFoReply, Ref.decStatus, words, ne_eq, not_true_eq_false, and_false, Option.bind_eq_bind, Option.bind_some]
  -- field by field at the head of the term: `simp` would re-traverse the whole continuation after every field
  rw [u_le_bind 4 _ _ _ (by omega), u_le_bind 4 _ _ _ (by omega), u_le_bind 2 _ _ _ (by omega),
    u_le_bind 2 _ _ _ (by omega), u_le_bind 4 _ _ _ (by omega), u_le_bind 4 _ _ _ (by omega),
    u_le_bind 4 _ _ _ (by omega)]
  rfl

theorem serve_fwdOpen {st : Srv.St} {rnd : Srv.Rnd} {c : Ref.Ctx} {timeout : Nat} {fo : Ref.FwdOpen} {fr : Bytes}
    (hc : CtxOk c = true) (henc : Ref.encMsg c (.fwdOpen timeout fo) = some fr) (hacc : FoAccepted st rnd fo) :
    Srv.serve st rnd fr =
      ({ st with fwds := st.fwds ++ [fwdEntry fo (foOtId fo rnd)] }, .reply (rrFrame c timeout (foOkBytes fo rnd))) := by
  obtain ⟨b, hb, hrr⟩ := encMsg_some henc
  obtain ⟨cp, _, hhead, _⟩ := encFwdOpen_some hb
  simp only [List.cons_append] at hhead
  have hsvc : (if fo.large = true then 0x5B else 0x54) = Generated.iopSvcFwdOpen ∨
      (if fo.large = true then 0x5B else 0x54) = Generated.iopSvcFwdOpenLarge := by
    cases fo.large <;> simp [Generated.iopSvcFwdOpen, Generated.iopSvcFwdOpenLarge]
  refine serve_cm hc hhead (by cases fo.large <;> decide) hrr ?_
  have hp := parseFwdOpen_enc hb
  subst hhead
  simp only [Srv.cmService, hsvc, ↓reduceIte, hp, forwardOpen_accepted hacc]

/-- the path of the Message Router, `router` = (2, 1) (`tables_agree`) -/
def routerPath : List Srv.PSeg := [.cls 2, .ins 1]

/-- the peer has a connection `id` whose path (after the port segments) designates the Message Router -/
def ConnRouter (st : Srv.St) (id : Nat) : Prop :=
  ∃ f, st.fwds.find? (fun g => g.connId == id) = some f ∧ f.cpath.dropWhile Srv.PSeg.isPort = routerPath

/-- a connected request leaves the port-stripped path in the stored entry of its connection (under `ConnRouter` that
path is `routerPath`, which is what is written here) -/
def popPorts (fwds : List Srv.Fwd) (id : Nat) : List Srv.Fwd :=
  fwds.map fun g => if g.connId = id then { g with cpath := routerPath } else g

theorem connRouter_popPorts {st : Srv.St} (id : Nat) {k : Nat} (h : ConnRouter st k) (d : Dev) :
    ConnRouter { dev := d, fwds := popPorts st.fwds id } k := by
  obtain ⟨f, hf, hp⟩ := h
  refine ⟨if f.connId = id then { f with cpath := routerPath } else f, ?_, ?_⟩
  · -- the rewritten entries keep their connection ids
    simp [popPorts, List.find?_map, Function.comp_def, apply_ite Srv.Fwd.connId, hf]
  · split
    · rfl
    · exact hp

theorem targetOf_router (d : Dev) (hro : hasRouter d = true) : Srv.targetOf true d routerPath = some router := by
  have : resolve d.symbols .no (Srv.toPath routerPath) = some (2, 1, none) := rfl
  unfold hasRouter at hro
  simp only [Srv.targetOf, this]
  have h2 : ((2, 1) : Nat × Nat) = router := by decide
  simp [h2, hro]

theorem cmRequest_connected (st : Srv.St) (rnd : Srv.Rnd) {id : Nat} {r : Req} {b : Bytes}
    (henc : Ref.encReq r = some b) (hw : WFReq r = true) (hro : hasRouter st.dev = true) (hconn : ConnRouter st id) :
    Srv.cmRequest true st rnd (some id) b =
      ({ dev := (exec st.dev r).1, fwds := popPorts st.fwds id }, (exec st.dev r).2) := by
  obtain ⟨f, hf, hp⟩ := hconn
  have hid : f.connId = id := by
    have := List.find?_some hf
    simpa using this
  have hparse := parseCip_encReq henc hw
  unfold Srv.cmRequest
  simp only [Option.bind_some, hf, hp, targetOf_router st.dev hro]
  have hne : router ≠ Srv.cm := by decide
  simp only [if_neg hne, hparse, execAt_router, hid, popPorts]

theorem parseItem_connId {id : Nat} (rest : Bytes) (hid : id < 4294967296) :
    Srv.parseItem (Ref.encItem 0xA1 (Bytes.le 4 id) ++ rest) = some ({ ty := 0xA1, len := 4, body := .connId id }, rest) := by
  simp [Ref.encItem, Srv.parseItem, u_le, Bytes.le_length, take_append, Bytes.leNat_le, hid, Generated.iopCpfConnectionId]

theorem parseItem_connData {seq : Nat} {b : Bytes} (hseq : seq < 65536) (hb : b ≠ []) (hl : b.length < 65000) :
    Srv.parseItem (Ref.encItem 0xB1 (Bytes.le 2 seq ++ b)) =
      some ({ ty := 0xB1, len := 2 + b.length, body := .connData seq b }, []) := by
  have hlen : (Bytes.le 2 seq ++ b).length = 2 + b.length := by simp [Bytes.le_length]
  have ht := take_self (Bytes.le 2 seq ++ b)
  rw [hlen] at ht
  have hl' : 2 + b.length < 65536 := by omega
  simp [Ref.encItem, Srv.parseItem, hlen, u_le, hl', ht, hseq, hb, Generated.iopCpfConnectionId,
    Generated.iopCpfConnectionData]

theorem produceSendData_unit (timeout id seq len1 : Nat) (rep : Bytes) :
    Srv.produceSendData ⟨0, timeout,
      [{ ty := 0xA1, len := 4, body := .connId id }, { ty := 0xB1, len := len1, body := .connData seq rep }]⟩
      = some (unitPayload timeout id seq rep) := by
  simp [Srv.produceSendData, Srv.produceItems, Srv.produceItem, unitPayload, Ref.encSendData, Ref.encItem, Bytes.le_length]

def unitFrame (c : Ref.Ctx) (timeout id seq : Nat) (rep : Bytes) : Bytes :=
  replyFrame c 0x70 (unitPayload timeout id seq rep)

theorem decReplyMsg_unitFrame {c : Ref.Ctx} {timeout id seq : Nat} {rep : Bytes} (hc : CtxOk c = true)
    (ht : timeout < 65536) (hid : id < 4294967296) (hseq : seq < 65536) (hl : rep.length < 65000) :
    Ref.decReplyMsg (unitFrame c timeout id seq rep) =
      (Ref.decCip rep).map fun m => ((c.hdr 0x70), Ref.RMsg.cip (some (id, seq)) 0 timeout m) := by
  have hlen : (Bytes.le 2 seq ++ rep).length < 65536 := by simp [Bytes.le_length]; omega
  rw [unitFrame, decReplyMsg_replyFrame c _ _ hc (.inr rfl) (by rw [unitPayload_length]; omega), unitPayload,
    ← List.append_nil (Ref.encItem 0xB1 _)]
  simp only [Ref.encSendData, Ref.decSendData, List.append_assoc, Option.bind_eq_bind]
  rw [u_le_bind 4 _ _ _ (by omega), u_le_bind 2 _ _ _ (by omega), u_le_bind 2 _ _ _ (by omega)]
  simp only [Option.bind_some, u_le, Nat.reducePow, Nat.reduceLT, decItem_encItem, hlen, Bytes.le_length, hseq, Bytes.leNat_le, hid,
    ne_eq, not_true_eq_false, ↓reduceIte, Nat.reduceEqDiff, false_and, and_self, Option.map_map]
  rfl

/-- **a connected request is answered like the unconnected one**: executed by `exec`, reply wrapped in
SendUnitData with the connection id and the sequence count echoed -/
theorem serve_connected {st : Srv.St} {rnd : Srv.Rnd} {c : Ref.Ctx} {id seq timeout : Nat} {r : Req} {fr : Bytes}
    (hc : CtxOk c = true) (henc : Ref.encMsg c (.request (.connected id seq) timeout r) = some fr)
    (hw : WFReq r = true) (hro : hasRouter st.dev = true) (hconn : ConnRouter st id)
    {rep : Bytes} (hrep : (exec st.dev r).2 = some rep) :
    Srv.serve st rnd fr =
      ({ dev := (exec st.dev r).1, fwds := popPorts st.fwds id }, .reply (unitFrame c timeout id seq rep)) := by
  obtain ⟨b, hb, ⟨ht, hbl, hid, hseq⟩, rfl⟩ := encMsg_some henc
  have hcmr := cmRequest_connected st rnd hb hw hro hconn
  rw [hrep] at hcmr
  refine serve_sendData hc (.inr rfl) ?_
    (parseSendData_enc ht (fun rest => parseItem_connId rest hid)
      (parseItem_connData hseq (encReq_ne hb) hbl))
    ?_ (produceSendData_unit timeout id seq (2 + b.length) rep)
  · rw [unitPayload_length]; omega
  · simp [Srv.ucmmSend, hcmr]

def fcOkBytes (fc : Ref.FwdClose) : Bytes :=
  [0x4E + 128, 0, 0, 0] ++ Bytes.le 2 fc.serial ++ Bytes.le 2 fc.vendor ++ Bytes.le 4 fc.oserial ++ [0, 0]

theorem encFwdClose_some {fc : Ref.FwdClose} {b : Bytes} (h : Ref.encFwdClose fc = some b) :
    ∃ cp, Ref.encConnPath fc.ports fc.target = some cp ∧
      b = [0x4E, 0x02, 0x20, 0x06, 0x24, 0x01, fc.prio, fc.ticks] ++ Bytes.le 2 fc.serial ++ Bytes.le 2 fc.vendor
          ++ Bytes.le 4 fc.oserial ++ [cp.length / 2, 0] ++ cp
      ∧ (fc.prio < 256 ∧ fc.ticks < 256 ∧ fc.serial < 65536 ∧ fc.vendor < 65536 ∧ fc.oserial < 4294967296) := by
  revert h
  fun_cases Ref.encFwdClose fc <;> intro h <;> cases h
  exact ⟨_, ‹_›, rfl, ‹_›⟩

theorem parseFwdClose_enc {fc : Ref.FwdClose} {b : Bytes} (h : Ref.encFwdClose fc = some b) :
    Srv.parseFwdClose b = some (fc.serial, fc.vendor, fc.oserial) := by
  obtain ⟨cp, hcp, rfl, _, _, hserial, hvendor, hoserial⟩ := encFwdClose_some h
  have hpath := parseEpath_connPath true [] hcp
  simp only [↓reduceIte, List.cons_append, List.nil_append, List.append_nil] at hpath
  simp only [List.cons_append, List.nil_append, List.append_assoc, Srv.parseFwdClose, cmPath_parse, u1_cons, u_le,
    Nat.reducePow, hserial, hvendor, hoserial, hpath]

theorem decCip_fcOk {fc : Ref.FwdClose} {b : Bytes} (h : Ref.encFwdClose fc = some b) :
    Ref.decCip (fcOkBytes fc) = some (.fwdClose
      { status := 0, serial := fc.serial, vendor := fc.vendor, oserial := fc.oserial }) := by
  obtain ⟨_, _, _, _, _, hserial, hvendor, hoserial⟩ := encFwdClose_some h
  simp only [fcOkBytes, List.cons_append, List.nil_append, List.append_assoc, Ref.decCip, Nat.reduceAdd,
    Nat.reduceEqDiff, or_self, ↓reduceIte, Ref.decFcReply, Ref.decStatus, words, ne_eq, not_true_eq_false, and_false,
    Option.bind_eq_bind, Option.bind_some]
  rw [u_le_bind 2 _ _ _ (by omega), u_le_bind 2 _ _ _ (by omega), u_le_bind 4 _ _ _ (by omega)]
  rfl

theorem serve_fwdClose {st : Srv.St} {rnd : Srv.Rnd} {c : Ref.Ctx} {timeout : Nat} {fc : Ref.FwdClose} {fr : Bytes}
    (hc : CtxOk c = true) (henc : Ref.encMsg c (.fwdClose timeout fc) = some fr) :
    Srv.serve st rnd fr =
      ({ st with fwds := st.fwds.filter (fun f => f.serial != fc.serial) }, .reply (rrFrame c timeout (fcOkBytes fc))) := by
  obtain ⟨b, hb, hrr⟩ := encMsg_some henc
  obtain ⟨cp, _, hhead, _⟩ := encFwdClose_some hb
  simp only [List.cons_append] at hhead
  refine serve_cm hc hhead (by decide) hrr ?_
  have hp := parseFwdClose_enc hb
  subst hhead
  simp only [Srv.cmService, Generated.iopSvcFwdOpen, Generated.iopSvcFwdOpenLarge, Generated.iopSvcFwdClose,
    Nat.reduceEqDiff, or_self, ↓reduceIte, hp, Srv.forwardClose, fcOkBytes]

/-- closing gives back the table a fresh Forward Open extended -/
theorem filter_after_open (fwds : List Srv.Fwd) (e : Srv.Fwd) (h : ∀ f ∈ fwds, f.serial ≠ e.serial) :
    (fwds ++ [e]).filter (fun f => f.serial != e.serial) = fwds := by
  simp only [List.filter_append, List.filter_cons, bne_self_eq_false, Bool.false_eq_true, ↓reduceIte, List.filter_nil,
    List.append_nil]
  apply List.filter_eq_self.mpr
  intro f hf
  simpa using h f hf

theorem filter_popPorts (fwds : List Srv.Fwd) (id serial : Nat) :
    (popPorts fwds id).filter (fun f => f.serial != serial) = popPorts (fwds.filter (fun f => f.serial != serial)) id := by
  rw [popPorts, popPorts, List.filter_map]
  congr 2
  funext g
  simp only [Function.comp]
  split <;> rfl

end Cpppo.Interop
