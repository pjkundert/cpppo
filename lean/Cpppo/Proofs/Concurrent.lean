import Cpppo.Model.Concurrent

/-! The invariant behind C09: every reachable state of the concurrent machine is the image of the
sequential run of its access log (`hist`), and every thread is at a definite point of its own program. -/
namespace Cpppo.Concurrent

variable {σ τ α : Type}

@[simp] theorem upd_same {β : Type} (f : Nat → β) (k : Nat) (v : β) : upd f k v k = v := by simp [upd]

theorem upd_other {β : Type} {f : Nat → β} {k j : Nat} {v : β} (h : j ≠ k) : upd f k v j = f j := by
  simp [upd, h]

@[simp] theorem proj_nil {β : Type} (s : Sid) : proj s ([] : List (Sid × β)) = [] := rfl

theorem proj_append {β : Type} (s : Sid) (l l' : List (Sid × β)) : proj s (l ++ l') = proj s l ++ proj s l' := by
  simp [proj, List.filterMap_append]

theorem proj_cons_same {β : Type} (s : Sid) (b : β) (l : List (Sid × β)) : proj s ((s, b) :: l) = b :: proj s l := by
  simp [proj]

theorem proj_cons_other {β : Type} {s s' : Sid} {b : β} {l : List (Sid × β)} (h : s' ≠ s) :
    proj s' ((s, b) :: l) = proj s' l := by
  simp [proj, Ne.symm h]

theorem runSeq_append (exec : σ → List τ → σ × α) (m : σ) (l l' : List (Sid × List τ)) :
    runSeq exec m (l ++ l') =
      ((runSeq exec (runSeq exec m l).1 l').1, (runSeq exec m l).2 ++ (runSeq exec (runSeq exec m l).1 l').2) := by
  induction l generalizing m with
  | nil => simp [runSeq]
  | cons e l ih =>
    obtain ⟨s, w⟩ := e
    simp only [List.cons_append, runSeq, ih, List.cons_append]

/-- the replies of a sequential run are in one-to-one correspondence with its requests -/
theorem runSeq_length (exec : σ → List τ → σ × α) (m : σ) (l : List (Sid × List τ)) :
    (runSeq exec m l).2.length = l.length := by
  induction l generalizing m with
  | nil => rfl
  | cons e l ih => obtain ⟨s, w⟩ := e; simp [runSeq, ih]

theorem requests_nil : requests ([] : List (Frame τ)) = [] := rfl

theorem requests_cons (f : Frame τ) (fs : List (Frame τ)) : requests (f :: fs) = f.map (·.2) ++ requests fs := by
  simp [requests]

/-- what a thread's record says about its place in its program: the requests not executed yet (as they are
going to be executed), the replies computed so far, the sizes of the frames sent, current and not yet received -/
structure View (τ α : Type) where
  ahead : List (List τ)
  got : List α
  sizes : List Nat

def Thread.view (scratch : Pid → List τ) (t : Thread τ α) : View τ α :=
  let v (cur : List (List τ)) (rs : List α) (n : List Nat) : View τ α :=
    ⟨cur ++ requests t.frames, t.sent.flatten ++ rs, t.sent.map List.length ++ n ++ t.frames.map List.length⟩
  match t.pc with
  | .idle => v [] [] []
  | .toParse done more => v (done ++ more.map (·.2)) [] [done.length + more.length]
  | .parsing p rest done more => v (done ++ (scratch p ++ rest) :: more.map (·.2)) [] [done.length + 1 + more.length]
  | .exec todo rs => v todo rs [rs.length + todo.length]

theorem sent_prefix_got (scratch : Pid → List τ) (t : Thread τ α) : t.sent.flatten <+: (t.view scratch).got := by
  fun_cases Thread.view scratch t <;> exact List.prefix_append _ _

/-- the parser a thread is inside of -/
def PC.inside : PC τ α → Option Pid
  | .parsing p _ _ _ => some p
  | _ => none

/-- The invariant: the shared memory and every reply are those of the sequential run of the access
log; every thread's executed requests, followed by what it still has to do, are its own program;
the frames sent, the one in hand and those to come have the sizes of the program's frames (a reply frame is
sent only when it holds one reply per member); a parser's lock is held exactly by the thread that is inside it. -/
structure Inv (exec : σ → List τ → σ × α) (m0 : σ) (prog : Sid → List (Frame τ)) (st : State σ τ α) : Prop where
  mem : st.mem = (runSeq exec m0 st.hist).1
  ord : ∀ s, proj s st.hist ++ ((st.thr s).view st.scratch).ahead = requests (prog s)
  rep : ∀ s, ((st.thr s).view st.scratch).got = proj s (runSeq exec m0 st.hist).2
  frm : ∀ s, ((st.thr s).view st.scratch).sizes = (prog s).map List.length
  lock : ∀ s p, st.lock p = some s ↔ (st.thr s).pc.inside = some p

section
variable {exec : σ → List τ → σ × α} {m0 : σ} {prog : Sid → List (Frame τ)} {st : State σ τ α}

theorem inv_init (exec : σ → List τ → σ × α) (m0 : σ) (prog : Sid → List (Frame τ)) :
    Inv exec m0 prog (init m0 prog) := by
  constructor <;> intros <;> simp [init, runSeq, Thread.view, PC.inside]

theorem Inv.excl (h : Inv exec m0 prog st) {s s' : Sid} {p : Pid}
    (h1 : (st.thr s).pc.inside = some p) (h2 : (st.thr s').pc.inside = some p) : s = s' :=
  Option.some.inj (((h.lock s p).mpr h1).symm.trans ((h.lock s' p).mpr h2))

/-- Every step but an access: thread `s` gets a record with the same view of its program, and the scratch of
the parsers other threads are inside is left alone. -/
theorem Inv.frame (h : Inv exec m0 prog st) (s : Sid) {t : Thread τ α} {lock' : Pid → Option Sid} {scratch' : Pid → List τ}
    (hsc : ∀ s' q, s' ≠ s → (st.thr s').pc.inside = some q → scratch' q = st.scratch q)
    (hview : t.view scratch' = (st.thr s).view st.scratch)
    (hlock : ∀ s' q, lock' q = some s' ↔ (upd st.thr s t s').pc.inside = some q) :
    Inv exec m0 prog { st with lock := lock', scratch := scratch', thr := upd st.thr s t } := by
  have hv : ∀ s', (upd st.thr s t s').view scratch' = (st.thr s').view st.scratch := by
    intro s'
    by_cases hs : s' = s
    · rw [hs, upd_same, hview]
    · -- the view reads the scratch only of the parser the thread is inside of
      rw [upd_other hs]
      unfold Thread.view
      cases hpc : (st.thr s').pc with
      | parsing p rest done more => simp only [hsc s' p hs (by rw [hpc]; rfl)]
      | _ => rfl
  exact ⟨h.mem, fun s' => (hv s').symm ▸ h.ord s', fun s' => (hv s').symm ▸ h.rep s',
    fun s' => (hv s').symm ▸ h.frm s', hlock⟩

theorem Inv.lock_same (h : Inv exec m0 prog st) {s : Sid} {t : Thread τ α} (hin : t.pc.inside = (st.thr s).pc.inside) (s' : Sid) (q : Pid) :
    st.lock q = some s' ↔ (upd st.thr s t s').pc.inside = some q := by
  by_cases hs : s' = s
  · rw [hs, upd_same, hin]; exact h.lock s q
  · rw [upd_other hs]; exact h.lock s' q

/- The cases of `stepWith` (and of `nextKind`), in the order of the definition: 1 finished, 2 recv, 3 plan, 4 blocked,
5 acquire, 6 feed, 7 release, 8 access, 9 send. -/
theorem step_inv (h : Inv exec m0 prog st) (s : Sid) : Inv exec m0 prog (step exec st s) := by
  unfold step
  fun_cases stepWith true exec st s
  -- finished, blocked
  case case1 | case4 => exact h
  -- recv, plan, send
  case case2 | case3 | case9 =>
    exact h.frame s (fun _ _ _ _ => rfl) (by simp +zetaDelta [Thread.view, requests_cons, *])
      (h.lock_same (by simp +zetaDelta [PC.inside, *]))
  -- acquire
  case case5 t done p w more hpc hl =>
    replace hpc : (st.thr s).pc = .toParse done ((p, w) :: more) := hpc
    replace hl : st.lock p = none := by simpa using hl
    -- the parser is free: no thread is inside it
    have hfree : ∀ s', (st.thr s').pc.inside ≠ some p := fun s' hin => by
      rw [(h.lock s' p).mpr hin] at hl; cases hl
    refine h.frame s (fun s' q _ hq => upd_other fun e => hfree s' (e ▸ hq))
      (by simp +zetaDelta [Thread.view, hpc]; omega) fun s' q => ?_
    by_cases hs : s' = s
    · subst hs
      by_cases hq : q = p
      · simp [hq, PC.inside]
      · rw [upd_other hq, h.lock, hpc]
        simp [PC.inside, Ne.symm hq]
    · rw [upd_other hs, ← h.lock s' q]
      by_cases hq : q = p
      · simp [hq, hl, Ne.symm hs]
      · rw [upd_other hq]
  -- feed
  case case6 t p b rest done more hpc =>
    replace hpc : (st.thr s).pc = .parsing p (b :: rest) done more := hpc
    have hin : (st.thr s).pc.inside = some p := by rw [hpc]; rfl
    -- no other thread is inside `p`
    exact h.frame s (fun s' q hs hq => upd_other fun e => hs (h.excl (e ▸ hq) hin))
      (by simp +zetaDelta [Thread.view, hpc]) (h.lock_same (by rw [hpc]; rfl))
  -- release
  case case7 t p done more hpc =>
    replace hpc : (st.thr s).pc = .parsing p [] done more := hpc
    have hin : (st.thr s).pc.inside = some p := by rw [hpc]; rfl
    refine h.frame s (fun _ _ _ _ => rfl) (by simp +zetaDelta [Thread.view, hpc]) fun s' q => ?_
    by_cases hs : s' = s
    · subst hs
      by_cases hq : q = p
      · simp [hq, PC.inside]
      · rw [upd_other hq, h.lock, hin]
        simp [PC.inside, Ne.symm hq]
    · rw [upd_other hs, ← h.lock s' q]
      by_cases hq : q = p
      · simp [hq, (h.lock s p).mpr hin, Ne.symm hs]
      · rw [upd_other hq]
  -- access, the one step that moves the log: `w` goes from the head of what `s` has ahead to the end of the log
  case case8 t w todo rs hpc =>
    replace hpc : (st.thr s).pc = .exec (w :: todo) rs := hpc
    have ho := h.ord s; have hr := h.rep s; have hf := h.frm s
    simp only [Thread.view, hpc] at ho hr hf
    refine ⟨by simp only [runSeq_append, runSeq, ← h.mem], fun s' => ?_, fun s' => ?_, fun s' => ?_,
      h.lock_same (by rw [hpc]; rfl)⟩
    all_goals by_cases hs : s' = s
    · subst hs; simpa +zetaDelta [Thread.view, proj_append, proj_cons_same] using ho
    · simpa [upd_other hs, proj_append, proj_cons_other hs] using h.ord s'
    · subst hs; simp +zetaDelta [Thread.view, runSeq_append, runSeq, proj_append, proj_cons_same, ← h.mem, ← hr]
    · simpa [upd_other hs, runSeq_append, runSeq, proj_append, proj_cons_other hs] using h.rep s'
    · subst hs; simpa +zetaDelta [Thread.view, Nat.add_assoc, Nat.add_comm 1] using hf
    · simpa [upd_other hs] using h.frm s'

theorem inv_run (exec : σ → List τ → σ × α) (m0 : σ) (prog : Sid → List (Frame τ)) (sched : List Sid) :
    Inv exec m0 prog (runSched exec (init m0 prog) sched) := by
  suffices ∀ st, Inv exec m0 prog st → Inv exec m0 prog (runSched exec st sched) from this _ (inv_init exec m0 prog)
  induction sched with
  | nil => exact fun _ h => h
  | cons s rest ih => exact fun st h => ih _ (step_inv h s)

theorem mem_proj_of_mem {β : Type} {e : Sid × β} {l : List (Sid × β)} (h : e ∈ l) : e.2 ∈ proj e.1 l :=
  List.mem_filterMap.mpr ⟨e, h, if_pos rfl⟩

theorem hist_mem_prog (h : Inv exec m0 prog st) (e : Sid × List τ) (he : e ∈ st.hist) : e.2 ∈ requests (prog e.1) := by
  rw [← h.ord e.1]
  exact List.mem_append_left _ (mem_proj_of_mem he)

theorem runSeq_invariant (exec : σ → List τ → σ × α) (I : σ → Prop) (m : σ) (l : List (Sid × List τ))
    (h0 : I m) (h : ∀ e ∈ l, ∀ m, I m → I (exec m e.2).1) : I (runSeq exec m l).1 := by
  induction l generalizing m with
  | nil => exact h0
  | cons e l ih =>
    obtain ⟨he, hl⟩ := List.forall_mem_cons.mp h
    exact ih _ (he m h0) hl

theorem proj_runSeq_getElem {exec : σ → List τ → σ × α} {m : σ} {l : List (Sid × List τ)} {s : Sid} {i : Nat}
    {a : α} (h : (proj s (runSeq exec m l).2)[i]? = some a) :
    ∃ pre post w, l = pre ++ (s, w) :: post ∧ (proj s pre).length = i ∧ a = (exec (runSeq exec m pre).1 w).2 := by
  induction l generalizing m i with
  | nil => simp [runSeq] at h
  | cons e l ih =>
    obtain ⟨s', w'⟩ := e
    simp only [runSeq] at h
    by_cases hs : s = s'
    · subst hs
      rw [proj_cons_same] at h
      cases i with
      | zero => exact ⟨[], l, w', rfl, rfl, (Option.some.inj h).symm⟩
      | succ i =>
        obtain ⟨pre, post, w, rfl, rfl, ha⟩ := ih h
        exact ⟨(s, w') :: pre, post, w, rfl, by rw [proj_cons_same]; rfl, ha⟩
    · rw [proj_cons_other hs] at h
      obtain ⟨pre, post, w, rfl, rfl, ha⟩ := ih h
      exact ⟨(s', w') :: pre, post, w, rfl, by rw [proj_cons_other hs], ha⟩

/-- a thread whose next step is of this kind can move -/
def Kind.enabled : Kind → Bool
  | .blocked _ => false
  | .finished => false
  | _ => true

theorem inv_no_deadlock (h : Inv exec m0 prog st) (s : Sid) (hs : (st.thr s).finished = false) :
    ∃ s', (nextKind st s').enabled = true := by
  by_cases hen : (nextKind st s).enabled = true
  · exact ⟨s, hen⟩
  revert hen
  fun_cases nextKind st s
  -- finished: excluded
  case case1 => simp_all +zetaDelta [Thread.finished]
  -- blocked: the thread that holds the lock is inside the parser, and such a thread can always move
  case case4 t done p w more _ hl =>
    obtain ⟨s', hl⟩ := Option.isSome_iff_exists.mp hl
    have hin := (h.lock s' p).mp hl
    refine fun _ => ⟨s', ?_⟩
    cases hpc' : (st.thr s').pc with
    | parsing q rest done' more' => cases rest <;> simp [nextKind, hpc', Kind.enabled]
    | _ => rw [hpc'] at hin; cases hin
  all_goals exact fun hen => absurd rfl hen

/-- steps a thread still has to take for these members' parse sections -/
def memberWork : List (Member τ) → Nat
  | [] => 0
  | m :: rest => m.2.length + 2 + memberWork rest

/-- recv + parse sections + plan + accesses + send -/
def frameWork (f : Frame τ) : Nat := 1 + memberWork f + 1 + f.length + 1

def framesWork : List (Frame τ) → Nat
  | [] => 0
  | f :: fs => frameWork f + framesWork fs

def PC.work : PC τ α → Nat
  | .idle => 0
  | .toParse done more => memberWork more + 1 + (done.length + more.length) + 1
  | .parsing _ rest done more => rest.length + 1 + memberWork more + 1 + (done.length + 1 + more.length) + 1
  | .exec todo _ => todo.length + 1

/-- the number of steps a thread still has to take -/
def Thread.work (t : Thread τ α) : Nat := t.pc.work + framesWork t.frames

theorem step_thr_other {s s' : Sid} (h : s' ≠ s) : (step exec st s).thr s' = st.thr s' := by
  unfold step
  fun_cases stepWith true exec st s
  case case1 | case4 => rfl  -- finished, blocked: the state stays
  all_goals exact upd_other h

theorem step_work {s : Sid} (hen : (nextKind st s).enabled = true) :
    ((step exec st s).thr s).work + 1 = (st.thr s).work ∧
    ∀ s', s' ≠ s → ((step exec st s).thr s').work = (st.thr s').work := by
  refine ⟨?_, fun s' hs => by rw [step_thr_other hs]⟩
  unfold step
  fun_cases stepWith true exec st s
  -- finished, blocked: not enabled
  case case1 | case4 => simp_all +zetaDelta [nextKind, Kind.enabled]
  -- every other instruction is one of the steps `work` counts
  all_goals
    simp +zetaDelta only [Thread.work, upd_same, *, PC.work, memberWork, framesWork, frameWork, List.length_append,
      List.length_cons, List.length_nil]
    omega

end

theorem runSched_thr_of_not_mem (exec : σ → List τ → σ × α) (st : State σ τ α) (sched : List Sid) (s : Sid)
    (h : s ∉ sched) : (runSched exec st sched).thr s = st.thr s := by
  induction sched generalizing st with
  | nil => rfl
  | cons x rest ih =>
    simp only [List.mem_cons, not_or] at h
    show (runSched exec (step exec st x) rest).thr s = st.thr s
    rw [ih _ h.2, step_thr_other h.1]

end Cpppo.Concurrent
