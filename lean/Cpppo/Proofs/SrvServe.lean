import Cpppo.Proofs.Request
/-! One request frame through the server model: parse, deliver, execute, produce; and back through the
reference decoder. -/
namespace Cpppo.Interop
open Cpppo Cpppo.Logix Cpppo.Fields

/-- routing from the object the path designates and from the Message Router end at the same object -/
theorem routeTarget_designated {d : Dev} (p : Path) {c i : Nat} {a : Option Nat}
    (hr : resolve d.symbols .no p = some (c, i, a)) (hex : (d.obj? c i).isSome = true) :
    (routeTarget d (c, i) p).getD (c, i) = (routeTarget d router p).getD router := by
  simp only [routeTarget, hr]
  by_cases hc : (c, i) = router <;> simp [hc, hex]

/-- executing at the object the path designates is executing at the Message Router (which routes there) -/
theorem execAt_designated {d : Dev} {r : Req} {c i : Nat} {a : Option Nat}
    (hr : resolve d.symbols .no (reqPath r) = some (c, i, a)) (hex : (d.obj? c i).isSome = true) :
    Srv.execAt d (c, i) r = exec d r := by
  cases r with
  | simple s =>
    have h := routeTarget_designated (simplePath s) hr hex
    cases s <;> simp only [simplePath] at h <;> simp [Srv.execAt, exec, execSimple, execSimpleAt, h]
  | multiple p ss =>
    unfold Srv.execAt exec Srv.execMultipleAt execMultiple
    simp only [routeTarget_designated p hr hex]
    rfl

theorem execAt_router (d : Dev) (r : Req) : Srv.execAt d router r = exec d r := by
  cases r <;> rfl

/-- the request is not addressed to the Connection Manager itself -/
def notCM (d : Dev) (r : Req) : Bool :=
  match resolve d.symbols .no (reqPath r) with
  | some (c, i, _) => (c, i) != Srv.cm
  | none => true

def hasRouter (d : Dev) : Bool := (d.obj? router.1 router.2).isSome

theorem execAt_targetOf {d : Dev} {r : Req} {segs : List Srv.PSeg} (hs : Srv.toPath segs = reqPath r)
    (hcm : notCM d r = true) (hro : hasRouter d = true) :
    ∃ t, Srv.targetOf true d segs = some t ∧ t ≠ Srv.cm ∧ Srv.execAt d t r = exec d r := by
  unfold Srv.targetOf
  rw [hs]
  unfold hasRouter at hro
  unfold notCM at hcm
  cases hr : resolve d.symbols .no (reqPath r) with
  | none =>
    refine ⟨router, by simp [hro], by decide, execAt_router d r⟩
  | some x =>
    obtain ⟨c, i, a⟩ := x
    rw [hr] at hcm
    simp only [bne_iff_ne, ne_eq] at hcm
    by_cases hex : (d.obj? c i).isSome = true
    · exact ⟨(c, i), by simp [hex], hcm, execAt_designated hr hex⟩
    · refine ⟨router, by simp [hex, hcm, hro], by decide, execAt_router d r⟩

/-- a bare request that does not start with 0x52 is an opaque payload for the `unconnected_send` parser -/
theorem parseUnconn_bare {r : Req} {b : Bytes} (h : Ref.encReq r = some b) (h52 : Ref.reqService r ≠ 0x52) :
    Srv.parseUnconn b = some (.bare b) := by
  obtain ⟨e, tail, rfl, _⟩ := encReq_head h
  have h2 : Ref.reqService r ≠ 0x52 + 128 := by
    cases r with
    | simple s => cases s <;> simp [Ref.reqService]
    | multiple p ss => simp [Ref.reqService]
  simp [Srv.parseUnconn, Generated.iopUnconnectedSend, h52, h2]

theorem cmRequest_unconnected (st : Srv.St) (rnd : Srv.Rnd) {r : Req} {b : Bytes} (h : Ref.encReq r = some b)
    (hw : WFReq r = true) (hcm : notCM st.dev r = true) (hro : hasRouter st.dev = true) :
    Srv.cmRequest true st rnd none b = ({ st with dev := (exec st.dev r).1 }, (exec st.dev r).2) := by
  obtain ⟨e, tail, hb, he⟩ := encReq_head h
  obtain ⟨segs, hp, hs⟩ := parseEpath_encEpath tail he
  obtain ⟨t, ht, htcm, hex⟩ := execAt_targetOf hs hcm hro
  have hparse := parseCip_encReq h hw
  unfold Srv.cmRequest
  simp only [Option.bind_none]
  subst hb
  simp only [hp, Option.map_some, ht, if_neg htcm, hparse, hex]

/-- session handle and sender context in range -/
def CtxOk (c : Ref.Ctx) : Bool :=
  decide (c.session < 4294967296) && decide (c.context.length = 8) && c.context.wf

theorem hdr_ok (c : Ref.Ctx) (cmd : Nat) (hc : CtxOk c = true) (hcmd : cmd < 65536) : (c.hdr cmd).ok = true := by
  simp only [CtxOk, Bool.and_eq_true, decide_eq_true_eq] at hc
  simp [Ref.Hdr.ok, Ref.Ctx.hdr, hc, hcmd]

/-- the frame the server answers with: the header of the request, status 0 -/
def replyFrame (c : Ref.Ctx) (cmd : Nat) (payload : Bytes) : Bytes :=
  Srv.produceEnip { command := cmd, session := c.session, status := 0, context := c.context, options := 0,
                    input := payload }

theorem decReplyMsg_replyFrame (c : Ref.Ctx) (cmd : Nat) (payload : Bytes) (hc : CtxOk c = true)
    (hcmd : cmd = 0x6F ∨ cmd = 0x70) (hl : payload.length < 65536) :
    Ref.decReplyMsg (replyFrame c cmd payload) = (Ref.decSendData payload).map fun m => (c.hdr cmd, m) := by
  simp only [CtxOk, Bool.and_eq_true, decide_eq_true_eq] at hc
  have hok : EnipOk { command := cmd, session := c.session, status := 0, context := c.context, options := 0,
                      input := payload } :=
    ⟨by rcases hcmd with rfl | rfl <;> simp, hc.1.1, by simp, hc.1.2, by simp, hl⟩
  have hne : cmd ≠ 0x65 := by rcases hcmd with rfl | rfl <;> decide
  simp only [replyFrame, Ref.decReplyMsg, decFrame_produceEnip hok, ne_eq, not_true_eq_false, ↓reduceIte, hne, hcmd]
  rfl

theorem serve_sendData {st st' : Srv.St} {rnd : Srv.Rnd} {c : Ref.Ctx} {cmd : Nat} {payload out : Bytes}
    {sd sd' : Srv.SendData} (hc : CtxOk c = true) (hcmd : cmd = 0x6F ∨ cmd = 0x70) (hl : payload.length < 65536)
    (hp : Srv.parseSendData payload = some sd) (hu : Srv.ucmmSend true st rnd sd = (st', some sd'))
    (ho : Srv.produceSendData sd' = some out) :
    Srv.serve st rnd (Ref.encFrame (c.hdr cmd) payload) = (st', .reply (replyFrame c cmd out)) := by
  have hlt : cmd < 65536 := by rcases hcmd with rfl | rfl <;> decide
  have hcmds : cmd ≠ Generated.iopCmdRegister ∧ cmd ≠ Generated.iopCmdUnregister
      ∧ Generated.iopCmdSendData.contains cmd = true := by rcases hcmd with rfl | rfl <;> decide
  unfold Srv.serve Srv.serveWith
  rw [parseEnip_encFrame (hdr_ok c cmd hc hlt) hl]
  simp only [Ref.Ctx.hdr, hcmds, ↓reduceIte, hp, hu, ho]
  rfl

theorem parseSendData_enc {timeout : Nat} {a b : Bytes} {i0 i1 : Srv.Item} (ht : timeout < 65536)
    (ha : ∀ rest, Srv.parseItem (a ++ rest) = some (i0, rest)) (hb : Srv.parseItem b = some (i1, [])) :
    Srv.parseSendData (Ref.encSendData 0 timeout a b) = some { iface := 0, timeout := timeout, items := [i0, i1] } := by
  simp only [Ref.encSendData, Srv.parseSendData, List.append_assoc, u_le, Nat.reducePow, Nat.reduceLT, ht,
    Srv.parseItems, ha, hb, ↓reduceIte]

theorem decItem_encItem (ty : Nat) (d rest : Bytes) (hty : ty < 65536) (hd : d.length < 65536) :
    Ref.decItem (Ref.encItem ty d ++ rest) = some (ty, d, rest) := by
  simp only [Ref.encItem, Ref.decItem, List.append_assoc, u_le, Nat.reducePow, hty, hd, take_append]

/-- command data of SendRRData around an unconnected message, request and reply alike -/
def rrPayload (timeout : Nat) (cip : Bytes) : Bytes :=
  Ref.encSendData 0 timeout (Ref.encItem 0x00 []) (Ref.encItem 0xB2 cip)

theorem rrPayload_length (timeout : Nat) (cip : Bytes) : (rrPayload timeout cip).length = 16 + cip.length := by
  simp only [rrPayload, Ref.encSendData, Ref.encItem, List.length_append, Bytes.le_length, List.length_nil]; omega

def unitPayload (timeout id seq : Nat) (cip : Bytes) : Bytes :=
  Ref.encSendData 0 timeout (Ref.encItem 0xA1 (Bytes.le 4 id)) (Ref.encItem 0xB1 (Bytes.le 2 seq ++ cip))

theorem unitPayload_length (timeout id seq : Nat) (cip : Bytes) :
    (unitPayload timeout id seq cip).length = 22 + cip.length := by
  simp only [unitPayload, Ref.encSendData, Ref.encItem, List.length_append, Bytes.le_length]; omega

theorem parseItem_null (rest : Bytes) :
    Srv.parseItem (Ref.encItem 0x00 [] ++ rest) = some ({ ty := 0, len := 0, body := .none }, rest) := by
  simp [Ref.encItem, Srv.parseItem, u_le, take]

theorem parseItem_unconn {cip : Bytes} {un : Srv.Unconn} (hl : cip.length < 65536)
    (hu : Srv.parseUnconn cip = some un) :
    Srv.parseItem (Ref.encItem 0xB2 cip) = some ({ ty := 0xB2, len := cip.length, body := .unconn un }, []) := by
  have hne : cip.length ≠ 0 := by   -- `parseUnconn` refuses the empty message
    rintro h0; rw [List.length_eq_zero_iff.mp h0] at hu; cases hu
  simp [Ref.encItem, Srv.parseItem, u_le, hl, take_self, hne, hu, Generated.iopCpfConnectionId,
    Generated.iopCpfConnectionData, Generated.iopCpfUnconnected]

theorem produceSendData_rr (timeout len0 : Nat) (rep : Bytes) :
    Srv.produceSendData ⟨0, timeout,
      [{ ty := 0, len := 0, body := .none }, { ty := 0xB2, len := len0, body := .unconn (.bare rep) }]⟩
      = some (rrPayload timeout rep) := by
  simp [Srv.produceSendData, Srv.produceItems, Srv.produceItem, Generated.iopCpfParsed, rrPayload, Ref.encSendData,
    Ref.encItem]

def rrFrame (c : Ref.Ctx) (timeout : Nat) (rep : Bytes) : Bytes := replyFrame c 0x6F (rrPayload timeout rep)

theorem decReplyMsg_rrFrame {c : Ref.Ctx} {timeout : Nat} {rep : Bytes} (hc : CtxOk c = true)
    (ht : timeout < 65536) (hl : rep.length < 65000) :
    Ref.decReplyMsg (rrFrame c timeout rep) =
      (Ref.decCip rep).map fun m => ((c.hdr 0x6F), Ref.RMsg.cip none 0 timeout m) := by
  have hl' : rep.length < 65536 := by omega
  rw [rrFrame, decReplyMsg_replyFrame c _ _ hc (.inl rfl) (by rw [rrPayload_length]; omega), rrPayload,
    ← List.append_nil (Ref.encItem 0xB2 rep)]
  simp only [Ref.encSendData, Ref.decSendData, List.append_assoc, Option.bind_eq_bind]
  rw [u_le_bind 4 _ _ _ (by omega), u_le_bind 2 _ _ _ (by omega), u_le_bind 2 _ _ _ (by omega)]
  simp only [Option.bind_some, decItem_encItem, hl', List.length_nil, Nat.reduceLT, ne_eq, not_true_eq_false,
    ↓reduceIte, and_self, Option.map_map]
  rfl

theorem encRR_some {c : Ref.Ctx} {timeout : Nat} {cip fr : Bytes} (h : Ref.encRR c timeout cip = some fr) :
    timeout < 65536 ∧ cip.length < 65000 ∧ fr = Ref.encFrame (c.hdr 0x6F) (rrPayload timeout cip) := by
  simp only [Ref.encRR, Option.ite_none_right_eq_some, Option.some.injEq] at h
  exact ⟨h.1.1, h.1.2, h.2.symm⟩

theorem resolve_cm (syms : List (String × (Nat × Nat × Nat))) :
    resolve syms .no (Srv.toPath [.cls 6, .ins 1]) = some (6, 1, none) := rfl

/-- an unconnected message in a SendRRData frame, bare or inside an Unconnected Send addressed to the Connection Manager
(any route), is handed to `Connection_Manager.request`; the reply comes back in a SendRRData frame -/
theorem serve_rr {st st' : Srv.St} {rnd : Srv.Rnd} {c : Ref.Ctx} {timeout : Nat} {cip req fr rep : Bytes}
    {un : Srv.Unconn} (hc : CtxOk c = true) (henc : Ref.encRR c timeout cip = some fr)
    (hu : Srv.parseUnconn cip = some un)
    (hun : un = .bare req ∨ ∃ prio ticks route, un = .usend [.cls 6, .ins 1] prio ticks req route)
    (hcm : Srv.cmRequest true st rnd none req = (st', some rep)) :
    Srv.serve st rnd fr = (st', .reply (rrFrame c timeout rep)) := by
  obtain ⟨ht, hl, rfl⟩ := encRR_some henc
  refine serve_sendData hc (.inl rfl) (by rw [rrPayload_length]; omega)
    (parseSendData_enc ht parseItem_null (parseItem_unconn (by omega) hu)) ?_
    (produceSendData_rr timeout cip.length rep)
  rcases hun with rfl | ⟨_, _, _, rfl⟩ <;> simp [Srv.ucmmSend, resolve_cm, Srv.cm, Generated.iopCmClass, hcm]

theorem parseSeg_port (p l : Nat) (rest : Bytes) (h1 : 1 ≤ p) (h2 : p ≤ 14) :
    Srv.parseSeg (p :: l :: rest) = some (.port p l, rest) := by
  -- `p` is below every logical and symbolic type byte
  have hk : ∀ base wide, 0x20 ≤ base → Srv.inKind base wide p = false := by
    intro base wide hb
    simp [Srv.inKind]; omega
  have hsym : p ≠ Generated.iopSegSymbolic := by simp [Generated.iopSegSymbolic]; omega
  simp [Srv.parseSeg, hk, hsym, h1, h2, Generated.iopSegElement, Generated.iopSegClass, Generated.iopSegInstance,
    Generated.iopSegConnection, Generated.iopSegAttribute]

def portSegs (ports : List (Nat × Nat)) : List Srv.PSeg := ports.map fun x => Srv.PSeg.port x.1 x.2

/- Inductions along `Ref.encPorts`: no port, then a port segment in range in front of the encoded rest. -/
theorem encPorts_length {route : List (Nat × Nat)} {a : Bytes} (h : Ref.encPorts route = some a) :
    a.length = 2 * route.length := by
  revert h
  fun_induction Ref.encPorts route generalizing a <;> intro h <;> cases h
  · rfl
  · rename_i ha _ ih
    simp only [List.cons_append, List.nil_append, List.length_cons, ih ha]; omega

/-- port segments in front of whatever segments follow them (none in a route path, the target in a connection path) -/
theorem parseSegs_ports {route : List (Nat × Nat)} {a : Bytes} (tail : Bytes) (segs : List Srv.PSeg)
    (h : Ref.encPorts route = some a) (ht : ∀ fuel, tail.length ≤ fuel → Srv.parseSegs fuel tail = some segs)
    (fuel : Nat) (hf : (a ++ tail).length ≤ fuel) :
    Srv.parseSegs fuel (a ++ tail) = some (portSegs route ++ segs) := by
  revert h
  fun_induction Ref.encPorts route generalizing a fuel <;> intro h <;> cases h
  · exact ht fuel hf
  · rename_i p l _ _ ha hr ih
    exact parseSegs_step (a := [p, l]) (by simp) (parseSeg_port p l _ hr.1 hr.2.1) hf (ih · · ha)

theorem cmPath_parse (rest : Bytes) :
    Srv.parseEpath false (0x02 :: 0x20 :: 0x06 :: 0x24 :: 0x01 :: rest) = some ([.cls 6, .ins 1], rest) := by
  have ht := take_append 4 [0x20, 0x06, 0x24, 0x01] rest rfl
  simp only [List.cons_append, List.nil_append] at ht
  simp [Srv.parseEpath, ht, Srv.parseSegs, Srv.parseSeg, Srv.inKind, Srv.logical, Generated.iopSegElement,
    Generated.iopSegClass, Generated.iopSegInstance, u1_cons]

theorem encUnconnectedSend_some {prio ticks : Nat} {req : Bytes} {route : List (Nat × Nat)} {w : Bytes}
    (h : Ref.encUnconnectedSend prio ticks req route = some w) :
    ∃ rp, Ref.encPorts route = some rp ∧ (prio < 256 ∧ ticks < 256 ∧ req.length < 65536 ∧ route.length < 256) ∧
      w = [0x52, 0x02, 0x20, 0x06, 0x24, 0x01, prio, ticks] ++ Bytes.le 2 req.length ++ req
            ++ (if req.length % 2 = 1 then [0] else []) ++ [route.length, 0] ++ rp := by
  revert h
  fun_cases Ref.encUnconnectedSend prio ticks req route <;> intro h <;> cases h
  exact ⟨_, ‹_›, ‹_›, rfl⟩

theorem parseUnconn_usend {prio ticks : Nat} {req : Bytes} {route : List (Nat × Nat)} {w : Bytes}
    (h : Ref.encUnconnectedSend prio ticks req route = some w) :
    Srv.parseUnconn w = some (.usend [.cls 6, .ins 1] prio ticks req (portSegs route)) := by
  obtain ⟨rp, hrp, ⟨_, _, hlen, _⟩, rfl⟩ := encUnconnectedSend_some h
  have hps := parseSegs_ports [] [] hrp (fun f _ => by cases f <;> rfl) rp.length (by simp)
  have hpl := encPorts_length hrp
  simp only [List.append_nil] at hps
  have hroute : Srv.parseEpath true (route.length :: 0 :: rp) = some (portSegs route, []) := by
    simp [Srv.parseEpath, Srv.skip1, ← hpl, take_self, hps]
  simp only [List.cons_append, List.nil_append, List.append_assoc, Srv.parseUnconn, Generated.iopUnconnectedSend,
    ↓reduceIte, cmPath_parse, u1_cons, u_le, Nat.reducePow, hlen, take_append]
  by_cases hodd : req.length % 2 = 1 <;> simp [hodd, Srv.skip1, hroute]

def Unconnected : Ref.Transport → Bool
  | .connected _ _ => false
  | _ => true

theorem encReq_ne {r : Req} {b : Bytes} (h : Ref.encReq r = some b) : b ≠ [] := by
  obtain ⟨e, tail, rfl, _⟩ := encReq_head h; simp

theorem encMsg_some {c : Ref.Ctx} {m : Ref.Msg} {fr : Bytes} (h : Ref.encMsg c m = some fr) :
    match (generalizing := false) m with
    | .register ver opts => fr = Ref.encFrame (c.hdr 0x65) (Bytes.le 2 ver ++ Bytes.le 2 opts)
    | .unregister => fr = Ref.encFrame (c.hdr 0x66) []
    | .request .direct timeout r =>
      ∃ b, Ref.encReq r = some b ∧ Ref.reqService r ≠ 0x52 ∧ Ref.encRR c timeout b = some fr
    | .request (.wrapped prio ticks route) timeout r =>
      ∃ b w, Ref.encReq r = some b ∧ Ref.encUnconnectedSend prio ticks b route = some w ∧ Ref.encRR c timeout w = some fr
    | .request (.connected id seq) timeout r =>
      ∃ b, Ref.encReq r = some b ∧ (timeout < 65536 ∧ b.length < 65000 ∧ id < 4294967296 ∧ seq < 65536)
        ∧ fr = Ref.encFrame (c.hdr 0x70) (unitPayload timeout id seq b)
    | .fwdOpen timeout fo => ∃ b, Ref.encFwdOpen fo = some b ∧ Ref.encRR c timeout b = some fr
    | .fwdClose timeout fc => ∃ b, Ref.encFwdClose fc = some b ∧ Ref.encRR c timeout b = some fr := by
  revert h
  fun_cases Ref.encMsg c m <;> intro h <;> try cases h
  -- the seven branches that encode, in the order of `Ref.encMsg`
  · rfl                              -- register
  · rfl                              -- unregister
  · exact ⟨_, ‹_›, ‹_›, h⟩           -- request, direct
  · exact ⟨_, _, ‹_›, ‹_›, h⟩        -- request, wrapped
  · exact ⟨_, ‹_›, ‹_›, rfl⟩         -- request, connected
  · exact ⟨_, ‹_›, h⟩                -- Forward Open
  · exact ⟨_, ‹_›, h⟩                -- Forward Close

/-- a reference-encoded unconnected request (bare or inside an Unconnected Send) is executed by `exec` and
answered in a SendRRData frame around `exec`'s reply bytes -/
theorem serve_unconnected {st : Srv.St} {rnd : Srv.Rnd} {c : Ref.Ctx} {t : Ref.Transport} {timeout : Nat}
    {r : Req} {fr : Bytes} (hun : Unconnected t = true) (hc : CtxOk c = true)
    (henc : Ref.encMsg c (.request t timeout r) = some fr) (hw : WFReq r = true)
    (hcm : notCM st.dev r = true) (hro : hasRouter st.dev = true)
    {rep : Bytes} (hrep : (exec st.dev r).2 = some rep) :
    Srv.serve st rnd fr = ({ st with dev := (exec st.dev r).1 }, .reply (rrFrame c timeout rep)) := by
  cases t with
  | connected id seq => simp [Unconnected] at hun
  | direct =>
    obtain ⟨b, hb, h52, hrr⟩ := encMsg_some henc
    have hcmr := cmRequest_unconnected st rnd hb hw hcm hro
    rw [hrep] at hcmr
    exact serve_rr hc hrr (parseUnconn_bare hb h52) (.inl rfl) hcmr
  | wrapped prio ticks route =>
    obtain ⟨b, w, hb, hwrap, hrr⟩ := encMsg_some henc
    have hcmr := cmRequest_unconnected st rnd hb hw hcm hro
    rw [hrep] at hcmr
    exact serve_rr hc hrr (parseUnconn_usend hwrap) (.inr ⟨_, _, _, rfl⟩) hcmr

end Cpppo.Interop
