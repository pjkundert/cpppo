import Cpppo.Model.PyText
/-! Lemmas about the Python text primitives: digit rendering round-trips through `int()`,
splitting at characters that do not occur, stripping text without blanks; `Over S`, the texts made of
letters, digits and the punctuation `S`, from which the renderings of the client grammar read off which
characters cannot occur in them. -/
namespace Cpppo.Py

def isAlnum (c : Char) : Bool :=
  ('0' ≤ c && c ≤ '9') || ('a' ≤ c && c ≤ 'z') || ('A' ≤ c && c ≤ 'Z')

/-- the characters the grammar gives a meaning to, the sign characters and blanks -/
def specials : List Char :=
  ['.', '[', ']', '-', '*', '/', '@', '+', '=', ',', '(', ')', '{', '_', '"',
   ' ', '\t', '\n', '\r', '\x0b', '\x0c', '\x1c', '\x1d', '\x1e', '\x1f']

def isSpecial (c : Char) : Bool := specials.contains c

theorem alnum_ne_special {c d : Char} (hc : isAlnum c = true) (hd : isSpecial d = true) : c ≠ d := by
  rintro rfl
  have hno : ∀ x ∈ specials, isAlnum x = false := by decide +kernel
  rw [hno c (List.contains_iff_mem.mp hd)] at hc
  cases hc

theorem alnum_toNat {c : Char} (h : isAlnum c = true) : 48 ≤ c.toNat := by
  simp only [isAlnum, Bool.or_eq_true, Bool.and_eq_true, decide_eq_true_eq, Char.le_def,
    UInt32.le_iff_toNat_le] at h
  have h0 : ('0' : Char).val.toNat = 48 := rfl
  have ha : ('a' : Char).val.toNat = 97 := rfl
  have hA : ('A' : Char).val.toNat = 65 := rfl
  simp only [Char.toNat]
  omega

/-- the blanks all lie below '0' -/
theorem alnum_not_space {c : Char} (h : isAlnum c = true) : isSpace c = false := by
  cases hs : isSpace c with
  | false => rfl
  | true =>
    have h48 := alnum_toNat h
    simp only [isSpace, Bool.or_eq_true, beq_iff_eq, or_assoc] at hs
    rcases hs with rfl | rfl | rfl | rfl | rfl | rfl | rfl | rfl | rfl | rfl <;> revert h48 <;> decide

theorem digitChar_facts : ∀ d, d < 36 →
    digitVal (digitChar true d) = some d ∧ isAlnum (digitChar true d) = true := by
  decide +kernel

theorem digitChar_isDigit10 : ∀ d, d < 10 → ('0' ≤ digitChar true d ∧ digitChar true d ≤ '9') := by
  decide +kernel

def ofDigitsFrom (b : Nat) (acc : Nat) (ds : List Nat) : Nat := ds.foldl (fun a d => a * b + d) acc

def ofDigits (b : Nat) (ds : List Nat) : Nat := ofDigitsFrom b 0 ds

theorem toDigitsAux_eq (b : Nat) (hb : 2 ≤ b) (n : Nat) : ∀ (fuel : Nat) (acc : List Nat), n < fuel →
    toDigitsAux b fuel n acc = toDigits b n ++ acc := by
  induction n using Nat.strongRecOn with
  | _ n ih =>
    intro fuel acc h
    obtain ⟨fuel, rfl⟩ : ∃ f, fuel = f + 1 := ⟨fuel - 1, by omega⟩
    rw [toDigits, toDigitsAux, toDigitsAux]
    by_cases hnb : n < b
    · rw [if_pos hnb, if_pos hnb]; rfl
    · have hlt : n / b < n := Nat.div_lt_self (by omega) (by omega)
      rw [if_neg hnb, if_neg hnb, ih _ hlt fuel _ (by omega), ih _ hlt n _ hlt, List.append_assoc]
      rfl

theorem toDigits_eq {b : Nat} (hb : 2 ≤ b) (n : Nat) :
    toDigits b n = if n < b then [n] else toDigits b (n / b) ++ [n % b] := by
  rw [toDigits, toDigitsAux]
  split
  · rfl
  · rw [toDigitsAux_eq b hb _ _ _ (Nat.div_lt_self (by omega) (by omega))]

theorem toDigits_induction (b : Nat) (hb : 2 ≤ b) {P : Nat → List Nat → Prop}
    (small : ∀ n, n < b → P n [n])
    (step : ∀ n ds, b ≤ n → P (n / b) ds → P n (ds ++ [n % b])) (n : Nat) : P n (toDigits b n) := by
  induction n using Nat.strongRecOn with
  | _ n ih =>
    rw [toDigits_eq hb]
    split
    · next h => exact small n h
    · exact step n _ (by omega) (ih _ (Nat.div_lt_self (by omega) (by omega)))

theorem toDigits_value (b : Nat) (hb : 2 ≤ b) (n : Nat) : ofDigits b (toDigits b n) = n := by
  refine toDigits_induction b hb (P := fun n ds => ofDigits b ds = n) ?_ ?_ n
  · intro n _; simp [ofDigits, ofDigitsFrom]
  · intro n ds _ ih; rw [← Nat.div_add_mod' n b, ← ih]; simp [ofDigits, ofDigitsFrom]

theorem toDigits_lt (b : Nat) (hb : 2 ≤ b) (n : Nat) : ∀ d ∈ toDigits b n, d < b := by
  refine toDigits_induction b hb (P := fun _ ds => ∀ d ∈ ds, d < b) ?_ ?_ n
  · intro n h d hd; rw [List.mem_singleton.mp hd]; exact h
  · intro n ds _ ih d hd
    rcases List.mem_append.mp hd with hd | hd
    · exact ih d hd
    · rw [List.mem_singleton.mp hd]; exact Nat.mod_lt _ (by omega)

theorem toDigits_ne_nil (b : Nat) (hb : 2 ≤ b) (n : Nat) : toDigits b n ≠ [] :=
  toDigits_induction b hb (P := fun _ ds => ds ≠ []) (fun _ _ => List.cons_ne_nil _ _)
    (fun _ _ _ _ => List.append_ne_nil_of_right_ne_nil _ (List.cons_ne_nil _ _)) n

theorem toDigits_length (b : Nat) (hb : 2 ≤ b) (n : Nat) :
    ∀ k, n < b ^ (k + 1) → (toDigits b n).length ≤ k + 1 := by
  refine toDigits_induction b hb (P := fun n ds => ∀ k, n < b ^ (k + 1) → ds.length ≤ k + 1) ?_ ?_ n
  · intro n _ k _; exact Nat.succ_le_succ (Nat.zero_le k)
  · intro n ds hn ih k hk
    cases k with
    | zero => simp at hk; omega
    | succ k =>
      rw [Nat.pow_succ] at hk
      have := ih k (Nat.div_lt_of_lt_mul (by rwa [Nat.mul_comm]))
      rw [List.length_append]; exact Nat.succ_le_succ this

theorem digitsGo_map (base : Nat) (hb : base ≤ 36) : ∀ (ds : List Nat) (acc : Nat) (last : Bool),
    (∀ d ∈ ds, d < base) → (ds ≠ [] ∨ last = true) →
    digitsGo base (ds.map (digitChar true)) acc last = some (ofDigitsFrom base acc ds) := by
  intro ds
  induction ds with
  | nil =>
    intro acc last _ h
    rcases h with h | h
    · exact absurd rfl h
    · simp [digitsGo, h, ofDigitsFrom]
  | cons d ds ih =>
    intro acc last hlt _
    have hd : d < base := hlt d List.mem_cons_self
    have hf := digitChar_facts d (by omega)
    have hne : (digitChar true d == '_') = false :=
      beq_eq_false_iff_ne.mpr (alnum_ne_special hf.2 (by decide))
    simp only [List.map_cons, digitsGo, hne, hf.1, hd, if_true, Bool.false_eq_true, if_false]
    rw [ih (acc * base + d) true (fun x hx => hlt x (List.mem_cons_of_mem _ hx)) (Or.inr rfl)]
    simp [ofDigitsFrom]

theorem pyDigits_digits {base : Nat} (hb : base ≤ 36) {ds : List Nat} (hlt : ∀ d ∈ ds, d < base)
    (hne : ds ≠ []) : pyDigits base (ds.map (digitChar true)) = some (ofDigits base ds) :=
  digitsGo_map base hb ds 0 false hlt (Or.inl hne)

theorem pyDigits_render (base : Nat) (hb2 : 2 ≤ base) (hb : base ≤ 36) (n : Nat) :
    pyDigits base ((toDigits base n).map (digitChar true)) = some n := by
  rw [pyDigits_digits hb (toDigits_lt base hb2 n) (toDigits_ne_nil base hb2 n), toDigits_value base hb2 n]

theorem digits_alnum {base : Nat} (hb : base ≤ 36) {ds : List Nat} (hlt : ∀ d ∈ ds, d < base) :
    ∀ c ∈ ds.map (digitChar true), isAlnum c = true := by
  intro c hc
  obtain ⟨d, hd, rfl⟩ := List.mem_map.mp hc
  exact (digitChar_facts d (by have := hlt d hd; omega)).2

theorem decimal_alnum (n : Nat) : ∀ c ∈ decimal n, isAlnum c = true :=
  digits_alnum (by omega) (toDigits_lt 10 (by omega) n)

theorem decimal_ne_nil (n : Nat) : decimal n ≠ [] :=
  fun h => toDigits_ne_nil 10 (by omega) n (List.map_eq_nil_iff.mp h)

theorem lstrip_plain (s : Str) (h : ∀ c ∈ s, isSpace c = false) : lstrip s = s := by
  unfold lstrip
  cases s with
  | nil => rfl
  | cons c cs => simp [List.dropWhile, h c List.mem_cons_self]

theorem rstrip_plain (s : Str) (h : ∀ c ∈ s, isSpace c = false) : rstrip s = s := by
  induction s with
  | nil => rfl
  | cons c cs ih =>
    have ihc := ih (fun x hx => h x (List.mem_cons_of_mem _ hx))
    rw [rstrip, ihc]
    cases cs with
    | nil => simp [h c List.mem_cons_self]
    | cons _ _ => rfl

theorem strip_plain (s : Str) (h : ∀ c ∈ s, isSpace c = false) : strip s = s := by
  unfold strip
  rw [lstrip_plain s h, rstrip_plain s h]

theorem strip_alnum (s : Str) (h : ∀ c ∈ s, isAlnum c = true) : strip s = s :=
  strip_plain s fun c hc => alnum_not_space (h c hc)

theorem splitFirst_none (d : Char) (s : Str) (h : d ∉ s) : splitFirst d s = none := by
  induction s with
  | nil => rfl
  | cons c cs ih =>
    rw [List.mem_cons, not_or] at h
    simp [splitFirst, Ne.symm h.1, ih h.2]

theorem splitFirst_append (d : Char) (a b : Str) (h : d ∉ a) :
    splitFirst d (a ++ d :: b) = some (a, b) := by
  induction a with
  | nil => simp [splitFirst]
  | cons c cs ih =>
    rw [List.mem_cons, not_or] at h
    simp [splitFirst, Ne.symm h.1, ih h.2]

theorem splitAll_none (d : Char) (s : Str) (h : d ∉ s) : splitAll d s = [s] := by
  induction s with
  | nil => rfl
  | cons c cs ih =>
    rw [List.mem_cons, not_or] at h
    simp [splitAll, Ne.symm h.1, ih h.2]

theorem splitAll_append (d : Char) (a b : Str) (h : d ∉ a) :
    splitAll d (a ++ d :: b) = a :: splitAll d b := by
  induction a with
  | nil => simp [splitAll]
  | cons c cs ih =>
    rw [List.mem_cons, not_or] at h
    simp [splitAll, Ne.symm h.1, ih h.2]

theorem splitSign_alnum (s : Str) (c : Char) (hc : isAlnum c = true) :
    splitSign (c :: s) = (false, c :: s) := by
  unfold splitSign
  split
  · rename_i heq; cases heq; exact absurd rfl (alnum_ne_special hc (by decide))
  · rename_i heq; cases heq; exact absurd rfl (alnum_ne_special hc (by decide))
  · rfl

theorem pyInt10_decimal (n : Nat) : pyInt10 (decimal n) = some (n : Int) := by
  have hal := decimal_alnum n
  unfold pyInt10
  rw [strip_alnum _ hal]
  cases hdec : decimal n with
  | nil => exact absurd hdec (decimal_ne_nil n)
  | cons c cs =>
    rw [splitSign_alnum cs c (hal c (by simp [hdec])), ← hdec]
    simp only [decimal, pyDigits_render 10 (by omega) (by omega) n]
    rfl

theorem parseInt_decimal (n : Nat) : parseInt (decimal n) = some (n : Int) := by
  unfold parseInt
  rw [pyInt10_decimal]

/-- `"0x%04X" % n` for `n ≥ 0`: the digits, zero-padded -/
def hexDigitsPadded (n : Nat) : List Nat :=
  List.replicate (4 - (toDigits 16 n).length) 0 ++ toDigits 16 n

theorem hex04_nat (n : Nat) :
    hex04 (n : Int) = '0' :: 'x' :: (hexDigitsPadded n).map (digitChar true) := by
  have h0 : ¬ ((n : Int) < 0) := by omega
  simp only [hex04, h0, if_false, Int.natAbs_natCast, zeroPad, hexUpper, hexDigitsPadded,
    List.length_map, List.map_append, List.map_replicate]
  rfl

theorem hexDigitsPadded_lt (n : Nat) : ∀ d ∈ hexDigitsPadded n, d < 16 := by
  intro d hd
  rcases List.mem_append.mp hd with hd | hd
  · rw [(List.mem_replicate.mp hd).2]; omega
  · exact toDigits_lt 16 (by omega) n d hd

theorem hexDigitsPadded_value (n : Nat) : ofDigits 16 (hexDigitsPadded n) = n := by
  unfold hexDigitsPadded
  generalize 4 - (toDigits 16 n).length = k
  induction k with
  | zero => exact toDigits_value 16 (by omega) n
  | succ k ih => simpa [List.replicate_succ, ofDigits, ofDigitsFrom] using ih

theorem hex04_alnum (n : Nat) : ∀ c ∈ hex04 (n : Int), isAlnum c = true := by
  rw [hex04_nat]
  simp only [List.forall_mem_cons]
  exact ⟨by decide, by decide, digits_alnum (by omega) (hexDigitsPadded_lt n)⟩

theorem afterPrefix_alnum (base : Nat) (r : Str) (h : ∀ c ∈ r, isAlnum c = true) :
    afterPrefix base r = pyDigits base r := by
  fun_cases afterPrefix base r
  · exact absurd rfl (alnum_ne_special (h '_' List.mem_cons_self) (by decide))
  · rfl

theorem parseInt_hex04 (n : Nat) : parseInt (hex04 (n : Int)) = some (n : Int) := by
  have hsplit : splitSign (strip (hex04 (n : Int)))
      = (false, '0' :: 'x' :: (hexDigitsPadded n).map (digitChar true)) := by
    rw [strip_alnum _ (hex04_alnum n), hex04_nat, splitSign_alnum _ '0' (by decide)]
  -- base 10 stops at the 'x'; the prefixed form reads the padded digits
  have h10 : pyInt10 (hex04 (n : Int)) = none := by
    rw [pyInt10, hsplit]; rfl
  have hpre : pyIntPrefixed (hex04 (n : Int)) = some (n : Int) := by
    rw [pyIntPrefixed, hsplit]
    simp only [beq_self_eq_true, Bool.true_or, if_true]
    rw [afterPrefix_alnum 16 _ (digits_alnum (by omega) (hexDigitsPadded_lt n)),
      pyDigits_digits (by omega) (hexDigitsPadded_lt n)
        (List.append_ne_nil_of_right_ne_nil _ (toDigits_ne_nil 16 (by omega) n)),
      hexDigitsPadded_value]
    rfl
  rw [parseInt, h10, hpre]

/-- text made of letters, digits and the punctuation `S` -/
def Over (S : List Char) (s : Str) : Prop := ∀ c ∈ s, isAlnum c = true ∨ c ∈ S

theorem Over.of_alnum {S : List Char} {s : Str} (h : ∀ c ∈ s, isAlnum c = true) : Over S s :=
  fun c hc => Or.inl (h c hc)

theorem Over.nil {S : List Char} : Over S [] := fun _ hc => nomatch hc

theorem Over.cons {S : List Char} {c : Char} {s : Str} (hc : c ∈ S) (hs : Over S s) : Over S (c :: s) :=
  List.forall_mem_cons.mpr ⟨Or.inr hc, hs⟩

theorem Over.append {S : List Char} {a b : Str} (ha : Over S a) (hb : Over S b) : Over S (a ++ b) :=
  List.forall_mem_append.mpr ⟨ha, hb⟩

theorem Over.mono {S T : List Char} {s : Str} (h : Over S s) (hST : ∀ c ∈ S, c ∈ T) : Over T s :=
  fun c hc => (h c hc).imp_right (hST c)

theorem Over.not_mem {S : List Char} {s : Str} (h : Over S s) {d : Char} (hd : isSpecial d = true)
    (hS : d ∉ S) : d ∉ s := by
  intro hm
  rcases h d hm with hal | hS'
  · exact alnum_ne_special hal hd rfl
  · exact hS hS'

theorem Over.no_space {S : List Char} {s : Str} (h : Over S s) (hS : ∀ c ∈ S, isSpace c = false) :
    ∀ c ∈ s, isSpace c = false :=
  fun c hc => (h c hc).elim alnum_not_space (hS c)

theorem startsWith_of_not_mem {s : Str} {d : Char} (h : d ∉ s) : startsWith s d = false := by
  cases s with
  | nil => rfl
  | cons c cs => exact beq_eq_false_iff_ne.mpr fun hcd => h (by simp [hcd])

end Cpppo.Py
