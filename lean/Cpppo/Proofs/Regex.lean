import Cpppo.Model.Regex
import Cpppo.Proofs.Longest

/-!
Helper lemmas for C11: the graph built by `state.from_regex` (model `nodeOfC`, `origNode`, …) steps
exactly like the fsm restricted to the states that are kept; runs, chunks, liveness, UTF-8 chains.
-/
namespace Cpppo.Regex
open Cpppo.Rx (Sym)

theorem mem_of_lookup {α β : Type} [BEq α] [LawfulBEq α] {l : List (α × β)} {k : α} {d : β}
    (h : l.lookup k = some d) : (k, d) ∈ l := by
  obtain ⟨l₁, l₂, rfl, _⟩ := List.lookup_eq_some_iff.mp h
  simp

theorem lookup_none_of_not_key (t : Tab) (k : Option Sym) (h : ∀ e ∈ t, e.1 ≠ k) : t.lookup k = none :=
  List.lookup_eq_none_iff.mpr fun e he => bne_iff_ne.mpr (h e he).symm

theorem keysNodup_cons (e : Option Sym × Nat) (t : Tab) :
    keysNodup (e :: t) = true ↔ (∀ e' ∈ t, e'.1 ≠ e.1) ∧ keysNodup t = true := by
  simp only [keysNodup, Bool.and_eq_true, Bool.not_eq_true', List.any_eq_false, beq_iff_eq, ne_eq]

theorem lookup_of_mem (t : Tab) (k : Option Sym) (d : Nat)
    (hnd : keysNodup t = true) (hm : (k, d) ∈ t) : t.lookup k = some d := by
  induction t with
  | nil => simp at hm
  | cons e t ih =>
    rw [keysNodup_cons] at hnd
    rw [List.lookup_cons]
    rcases List.mem_cons.mp hm with rfl | hm
    · simp
    · rw [beq_false_of_ne (hnd.1 _ hm)]
      exact ih hnd.2 hm

structure Fsm.WF (F : Fsm) : Prop where
  init : F.inMap F.init = true
  hasAny : ∀ q, F.inMap q = true → ∃ d, (F.tab q).lookup none = some d
  nodup : ∀ q, keysNodup (F.tab q) = true
  closed : ∀ q, ∀ e ∈ F.tab q, F.inMap e.2 = true

theorem Fsm.inMap_tab_mem (F : Fsm) (q : Nat) (hq : F.inMap q = true) : (q, F.tab q) ∈ F.map := by
  obtain ⟨t, ht⟩ := Option.isSome_iff_exists.mp hq
  simpa [Fsm.tab, ht] using mem_of_lookup ht

theorem Fsm.tab_mem_or_nil (F : Fsm) (q : Nat) : (q, F.tab q) ∈ F.map ∨ F.tab q = [] := by
  unfold Fsm.tab
  cases h : F.map.lookup q with
  | none => right; rfl
  | some t => left; exact mem_of_lookup h

theorem Fsm.wf_WF (F : Fsm) (h : F.wf = true) : F.WF := by
  simp only [Fsm.wf, Bool.and_eq_true, List.all_eq_true, List.any_eq_true] at h
  obtain ⟨hinit, hall⟩ := h
  refine ⟨hinit, fun q hq => ?_, fun q => ?_, fun q e he => ?_⟩
  · obtain ⟨⟨⟨⟨k, d⟩, hx, hk⟩, hnd⟩, _⟩ := hall _ (F.inMap_tab_mem q hq)
    obtain rfl : k = none := by simpa using hk
    exact ⟨d, lookup_of_mem _ _ _ hnd hx⟩
  · rcases F.tab_mem_or_nil q with hm | hnil
    · exact (hall _ hm).1.2
    · rw [hnil]; rfl
  · rcases F.tab_mem_or_nil q with hm | hnil
    · exact (hall _ hm).2 e he
    · simp [hnil] at he

theorem Fsm.step_inMap (F : Fsm) (h : F.WF) (q : Nat) (hq : F.inMap q = true) (c : Sym) :
    F.inMap (F.step q c) = true := by
  fun_cases Fsm.step F q c with
  | case1 d h1 => exact h.closed q _ (mem_of_lookup h1) -- the entry of `c`
  | case2 h1 => -- no entry of `c`: the anything-else entry
    obtain ⟨d, hd⟩ := h.hasAny q hq
    rw [hd]
    exact h.closed q _ (mem_of_lookup hd)

/-- the key the entry for `c` may put on a node: the first symbol of the encoding of `c` -/
def headKey (bytes : Bool) (c : Sym) : Option Sym := (encode bytes c).head?

theorem symExact_keys (F : Fsm) (bytes : Bool) (v : Variant) (q c nxt : Nat) :
    ∀ e ∈ symExact F bytes v q c nxt, some e.1 = headKey bytes c := by
  have hhead : (edgeBytes F bytes v c nxt).head? = headKey bytes c := by
    fun_cases edgeBytes F bytes v c nxt
    · unfold headKey; cases encode bytes c <;> rfl -- cut to the first byte (dead edge)
    · rfl
  fun_cases symExact F bytes v q c nxt <;> simp_all

/-- Looking `x` up in the exact edges built from a table, when only the encoding of `x` may start with
`x`: the entry for `x` decides.  (An entry skipped as redundant leaves nothing behind, and no later entry
has the key `x` again.) -/
theorem lookup_exactOf (F : Fsm) (bytes : Bool) (v : Variant) (q : Nat) (x : Sym)
    (hother : ∀ c, c ≠ x → headKey bytes c ≠ some x) (t : Tab) (hnd : keysNodup t = true) :
    (exactOf F bytes v q t).lookup x =
      (t.lookup (some x)).bind fun nxt => (symExact F bytes v q x nxt).lookup x := by
  fun_induction exactOf F bytes v q t with
  | case1 => rfl
  | case2 d t ih => exact ih ((keysNodup_cons _ t).mp hnd).2 -- anything-else entry: no exact edge
  | case3 c d t ih => -- entry of the symbol `c`
    rw [keysNodup_cons] at hnd
    rw [List.lookup_append, ih hnd.2, List.lookup_cons]
    by_cases hc : c = x
    · subst hc
      rw [lookup_none_of_not_key t _ hnd.1]
      simp
    · have : (symExact F bytes v q c d).lookup x = none :=
        List.lookup_eq_none_iff.mpr fun e he => bne_iff_ne.mpr fun hb =>
          hother c hc (hb ▸ (symExact_keys F bytes v q c d e he).symm)
      rw [this, beq_false_of_ne (fun h => hc (Option.some.inj h).symm)]
      rfl

/-- **one step of the node for `q` is one step of the fsm, cut at dead states** -/
theorem stepNode_origNode (F : Fsm) (h : F.WF) (bytes : Bool) (v : Variant) (q : Nat)
    (hq : F.inMap q = true) (x : Sym)
    (hx : encode bytes x = [x]) (hother : ∀ c, c ≠ x → headKey bytes c ≠ some x) :
    stepNode (origNode F bytes v q) x = target F (F.step q x) := by
  obtain ⟨d0, hd0⟩ := h.hasAny q hq
  have heb : ∀ nxt, edgeBytes F bytes v x nxt = [x] := fun nxt => by
    unfold edgeBytes; rw [hx]; split <;> rfl
  unfold stepNode origNode Fsm.step
  simp only [lookup_exactOf F bytes v q x hother _ (h.nodup q)]
  cases (F.tab q).lookup (some x) with
  | none => simp [anyEdge, hd0]
  | some nxt =>
    simp only [Option.bind_some, symExact, heb]
    by_cases hred : target F nxt = none ∧ anyEdge F q = some none
    · simp [hred]
    · simp [hred]

/-- the fsm restricted to kept states: the longest prefix all of whose states are kept -/
def Fsm.liveGo (F : Fsm) : Nat → List Sym → List Sym × Nat := longestGo F.step F.kept

theorem Fsm.liveGo_run (F : Fsm) (q : Nat) (w : List Sym) :
    (F.liveGo q w).2 = F.run q (F.liveGo q w).1 := longestGo_run F.step F.kept w q

theorem kept_inMap (F : Fsm) (q : Nat) (h : F.kept q = true) : F.inMap q = true := by
  simp only [Fsm.kept, Bool.and_eq_true] at h; exact h.1

theorem stepNode_terminal (n : Node) (t : Bool) (c : Sym) :
    stepNode { n with terminal := t } c = stepNode n c := rfl

/-- the terminal flag of the start node matters only when nothing is consumed: then that node is returned -/
theorem walk_terminal (M : StId → Option Node) (n : Node) (t : Bool) (w : List Sym) :
    walk M { n with terminal := t } w =
      ((walk M n w).1, if (walk M n w).1 = [] then { n with terminal := t } else (walk M n w).2.1,
       (walk M n w).2.2) := by
  cases w with
  | nil => rfl
  | cons c w =>
    rw [walk, walk, stepNode_terminal]
    cases stepNode n c with
    | none => rfl
    | some s =>
      dsimp only
      rcases Option.eq_none_or_eq_some (M s) with hM | ⟨n', hM⟩ <;> simp [hM]

theorem Fsm.run_cons (F : Fsm) (q : Nat) (c : Sym) (w : List Sym) :
    F.run q (c :: w) = F.run (F.step q c) w := rfl

theorem Fsm.run_append (F : Fsm) (q : Nat) (a b : List Sym) :
    F.run q (a ++ b) = F.run (F.run q a) b := by
  simp [Fsm.run, List.foldl_append]

def Fsm.Live (F : Fsm) (q : Nat) : Prop := ∃ v, F.final (F.run q v) = true

theorem Fsm.Live.of_step {F : Fsm} {q : Nat} {c : Sym} (h : F.Live (F.step q c)) : F.Live q := by
  obtain ⟨v, hv⟩ := h
  exact ⟨c :: v, hv⟩

/-- at most one state cannot reach a final state (true of a minimal automaton) -/
def Fsm.Reduced (F : Fsm) : Prop :=
  ∀ q q', F.inMap q = true → F.inMap q' = true → ¬ F.Live q → ¬ F.Live q' → q = q'

/-- the local dead test is exact: a state is dropped iff no final state can be reached from it -/
def Fsm.DeadExact (F : Fsm) : Prop :=
  ∀ q, F.inMap q = true → (F.dead q = false ↔ F.Live q)

theorem Fsm.dead_not_live (F : Fsm) (q : Nat) (h : F.dead q = true) : ¬ F.Live q := by
  simp only [Fsm.dead, Fsm.loopback, Bool.and_eq_true, Bool.not_eq_true', List.all_eq_true, beq_iff_eq] at h
  obtain ⟨⟨hl, hf⟩, _⟩ := h
  have hstep : ∀ c, F.step q c = q := fun c => by
    fun_cases Fsm.step F q c with
    | case1 d h1 => exact hl _ (mem_of_lookup h1) -- the entry of `c`
    | case2 h1 => -- the anything-else entry, if any
      cases h2 : (F.tab q).lookup none with
      | some d => exact hl _ (mem_of_lookup h2)
      | none => rfl
  have hrun : ∀ v : List Sym, F.run q v = q := fun v => by
    induction v with
    | nil => rfl
    | cons c v ih => rwa [F.run_cons, hstep]
  rintro ⟨v, hv⟩
  rw [hrun v, hf] at hv
  exact Bool.false_ne_true hv

theorem Fsm.DeadExact.of_not_live (F : Fsm)
    (h : ∀ q, F.inMap q = true → ¬ F.Live q → F.dead q = true) : F.DeadExact := fun q hq =>
  ⟨fun hd => Classical.byContradiction fun hn => Bool.false_ne_true (hd.symm.trans (h q hq hn)),
   fun hl => Bool.eq_false_iff.mpr fun hd => F.dead_not_live q hd hl⟩

theorem succ_maxOf_not_mem (l : List Nat) : maxOf l + 1 ∉ l := fun h =>
  Nat.not_succ_le_self (maxOf l) (Nat.le_trans (List.le_max?_getD_of_mem h)
    (by rw [maxOf, List.foldl_max]; exact Nat.le_max_right 0 _))

/-- every entry of a table is taken by some symbol: its own, or for the anything-else entry one that is
no key of the table -/
theorem Fsm.live_of_entry (F : Fsm) (h : F.WF) (q : Nat) (e : Option Sym × Nat) (he : e ∈ F.tab q)
    (hl : F.Live e.2) : F.Live q := by
  obtain ⟨k, d⟩ := e
  have hd := lookup_of_mem _ _ _ (h.nodup q) he
  obtain ⟨c, hc⟩ : ∃ c, F.step q c = d := by
    cases k with
    | some a => exact ⟨a, by rw [Fsm.step, hd]⟩
    | none =>
      refine ⟨maxOf ((F.tab q).filterMap (·.1)) + 1, ?_⟩
      rw [Fsm.step, lookup_none_of_not_key _ _ fun e he heq =>
        succ_maxOf_not_mem _ (List.mem_filterMap.mpr ⟨e, he, heq⟩), hd]
      rfl
  exact Fsm.Live.of_step (hc ▸ hl)

theorem Fsm.deadExact_of_reduced (F : Fsm) (h : F.WF) (hr : F.Reduced) (hi : F.Live F.init) :
    F.DeadExact := by
  refine .of_not_live F fun q hq hnl => ?_
  simp only [Fsm.dead, Bool.and_eq_true, Bool.not_eq_true', Fsm.loopback, List.all_eq_true, beq_iff_eq]
  refine ⟨⟨fun e he => ?_, ?_⟩, ?_⟩
  · exact hr _ _ (h.closed q e he) hq (fun hl => hnl (F.live_of_entry h q e he hl)) hnl
  · exact Bool.eq_false_iff.mpr fun hf => hnl ⟨[], hf⟩
  · exact beq_false_of_ne fun hb => hnl (hb ▸ hi)

theorem liveIter_sound (F : Fsm) (h : F.WF) (k q : Nat) (hq : q ∈ liveIter F k) : F.Live q := by
  fun_induction liveIter F k generalizing q with
  | case1 => exact ⟨[], (List.mem_filter.mp hq).2⟩ -- round 0: the final states
  | case2 k ih => -- one more round of `liveStep`
    simp only [liveStep, List.mem_filter, Bool.or_eq_true, List.any_eq_true, List.contains_iff_mem] at hq
    rcases hq.2 with h1 | ⟨e, he, h2⟩
    · exact ih q h1
    · exact F.live_of_entry h q e he (ih _ h2)

/-- **the liveness certificate (decidable, evaluated for every tested fsm) makes the local test exact** -/
theorem Fsm.deadExact_of_cert (F : Fsm) (h : F.WF) (hc : F.certLive = true) : F.DeadExact := by
  refine .of_not_live F fun q hq hnl => ?_
  simp only [Fsm.certLive, List.all_eq_true, Bool.or_eq_true, List.contains_iff_mem] at hc
  exact (hc _ (F.inMap_tab_mem q hq)).resolve_right fun h1 => hnl (liveIter_sound F h _ q h1)

theorem Fsm.kept_iff_live (F : Fsm) (hd : F.DeadExact) (q : Nat) (hq : F.inMap q = true) :
    F.kept q = true ↔ F.Live q := by
  rw [← hd q hq, Fsm.kept, hq, Bool.true_and, Bool.not_eq_true']

theorem walk_append (M : StId → Option Node) (a b : List Sym) (n : Node) :
    walk M n (a ++ b) =
      match walk M n a with
      | (p, e, true) => (p, e, true)
      | (p, e, false) => ((p ++ (walk M e b).1), (walk M e b).2.1, (walk M e b).2.2) := by
  induction a generalizing n with
  | nil => rfl
  | cons c a ih =>
    rw [List.cons_append, walk, walk]
    cases stepNode n c with
    | none => rfl
    | some s =>
      dsimp only
      cases M s with
      | none => rfl
      | some n' =>
        dsimp only
        rw [ih n']
        rcases walk M n' a with ⟨p, e, _ | _⟩ <;> rfl

theorem walkChunks_flatten (M : StId → Option Node) (chunks : List (List Sym)) (n : Node)
    (hne : ∀ ch ∈ chunks, ch ≠ []) :
    walkChunks M n chunks = ((walk M n chunks.flatten).1, (walk M n chunks.flatten).2.1) := by
  fun_induction walkChunks M n chunks with
  | case1 n => rfl
  | case2 n ch rest he => -- an empty chunk
    exact absurd (List.isEmpty_iff.mp he) (hne ch List.mem_cons_self)
  | case3 n ch rest he p e hw => rw [List.flatten_cons, walk_append, hw] -- stopped inside the chunk
  | case4 n ch rest he p e hw p' e' hr ih => -- chunk used up: on with the rest
    obtain ⟨rfl, rfl⟩ := Prod.mk.inj (hr.symm.trans (ih fun c hc => hne c (List.mem_cons_of_mem _ hc)))
    rw [List.flatten_cons, walk_append, hw]

theorem utf8_single (x : Nat) (h : x < 128) : utf8 x = [x] := if_pos h

theorem utf8_multi (x : Nat) (h : 128 ≤ x) : ∃ b1 b2 l, utf8 x = b1 :: b2 :: l ∧ 128 ≤ b1 := by
  fun_cases utf8 x with
  | case1 h1 => exact absurd h1 (Nat.not_lt.mpr h) -- one byte; cases 2-4: two, three, four bytes
  | case2 _ _ => exact ⟨_, _, _, rfl, Nat.le_add_right_of_le (by decide)⟩
  | case3 _ _ _ => exact ⟨_, _, _, rfl, Nat.le_add_right_of_le (by decide)⟩
  | case4 _ _ _ => exact ⟨_, _, _, rfl, Nat.le_add_right_of_le (by decide)⟩

theorem utf8_ne_nil (x : Nat) : utf8 x ≠ [] := by
  fun_cases utf8 x <;> exact List.cons_ne_nil _ _

theorem headKey_false (x c : Sym) (h : c ≠ x) : headKey false c ≠ some x :=
  fun hc => h (Option.some.inj hc)

theorem headKey_true_ne (x c : Nat) (hx : x < 128) (hc : c ≠ x) : headKey true c ≠ some x := by
  show (utf8 c).head? ≠ some x
  rcases Nat.lt_or_ge c 128 with h | h
  · rw [utf8_single c h]; exact fun hh => hc (Option.some.inj hh)
  · obtain ⟨b1, b2, l, he, hb⟩ := utf8_multi c h
    rw [he]; exact fun hh => Nat.lt_irrefl _ (Nat.lt_of_lt_of_le hx (Option.some.inj hh ▸ hb))

/-- every state's table has an entry for `x` (the alphabet names `x`) -/
def Fsm.named (F : Fsm) (x : Sym) : Bool := F.map.all fun e => (e.2.lookup (some x)).isSome

/-- hypothesis of the byte-machine clause: every character is named by the alphabet or is one byte -/
def Utf8Dom (F : Fsm) (w : List Sym) : Prop := ∀ x ∈ w, x < 128 ∨ F.named x = true

theorem two_entries {α : Type} (t : List α) (a b : α) (hab : a ≠ b) (hlen : t.length ≤ 2)
    (ha : a ∈ t) (hb : b ∈ t) : t = [a, b] ∨ t = [b, a] := by
  obtain _ | ⟨c, _ | ⟨d, _ | _⟩⟩ := t
  · cases ha
  · rw [List.mem_singleton] at ha hb
    exact absurd (ha.trans hb.symm) hab
  · simp only [List.mem_cons, List.not_mem_nil, or_false] at ha hb
    rcases ha with rfl | rfl <;> rcases hb with rfl | rfl
    · exact absurd rfl hab
    · exact .inl rfl
    · exact .inr rfl
    · exact absurd rfl hab
  · exact absurd hlen (by simp)

/-- In a machine that is not refused, a kept state with an entry for a multi-byte symbol has exactly
that entry and the anything-else entry: its edges and extra nodes are those made for that entry. -/
theorem exactOf_chainsOf_multi (F : Fsm) (h : F.WF) (hnr : refused F true = false) (q : Nat) (hq : F.kept q = true)
    (x nxt : Nat) (hx : (encode true x).length > 1) (hm : (some x, nxt) ∈ F.tab q) (v : Variant)
    (coll : List (Nat × Nat)) :
    exactOf F true v q (F.tab q) = symExact F true v q x nxt ∧
      chainsOf F true v coll q (F.tab q) = symChain F true v coll q x nxt := by
  have hin := kept_inMap F q hq
  obtain ⟨d0, hd0⟩ := h.hasAny q hin
  suffices hs : F.tab q = [(some x, nxt), (none, d0)] ∨ F.tab q = [(none, d0), (some x, nxt)] by
    rcases hs with hs | hs <;> rw [hs] <;> exact ⟨List.append_nil _, List.append_nil _⟩
  refine two_entries _ _ _ (by simp) ?_ hm (mem_of_lookup hd0)
  -- the assertion of the encoder expansion, for the entry of `x`
  have hnr' := List.any_eq_false.mp hnr _ (F.inMap_tab_mem q hin)
  rw [hq, Bool.true_and, Bool.not_eq_true] at hnr'
  have hx' := List.any_eq_false.mp hnr' _ hm
  -- what is left of it: length 1, or length 2 with an anything-else entry
  simp only [hx, decide_true, Bool.true_and, Bool.not_eq_true, Bool.not_eq_false', Bool.or_eq_true,
    Bool.and_eq_true, beq_iff_eq] at hx'
  omega

theorem walk_cons_some (M : StId → Option Node) {n n' : Node} {c : Sym} {s : StId}
    (hs : stepNode n c = some s) (hM : M s = some n') (w : List Sym) :
    walk M n (c :: w) = (c :: (walk M n' w).1, (walk M n' w).2) := by
  rw [walk, hs]; dsimp only; rw [hM]

theorem walk_cons_none (M : StId → Option Node) {n : Node} {c : Sym} (hs : stepNode n c = none)
    (w : List Sym) : walk M n (c :: w) = ([], n, true) := by
  rw [walk, hs]

theorem nodeOfC_orig (F : Fsm) (bytes : Bool) (v : Variant) (coll : List (Nat × Nat)) (q : Nat)
    (hq : F.kept q = true) : nodeOfC F bytes v coll (.orig q) = some (origNode F bytes v q) := if_pos hq

theorem walk_single (F : Fsm) (h : F.WF) (bytes : Bool) (q : Nat) (hq : F.kept q = true) (x : Sym)
    (hx : encode bytes x = [x]) (hother : ∀ c, c ≠ x → headKey bytes c ≠ some x) :
    walk (nodeOfC F bytes .fixed []) (origNode F bytes .fixed q) [x] =
      if F.kept (F.step q x) = true then ([x], origNode F bytes .fixed (F.step q x), false)
      else ([], origNode F bytes .fixed q, true) := by
  have hstep := stepNode_origNode F h bytes .fixed q (kept_inMap F q hq) x hx hother
  rw [target] at hstep
  cases hk : F.kept (F.step q x) with
  | true => rw [hk, if_pos rfl] at hstep; rw [walk_cons_some _ hstep (nodeOfC_orig _ _ _ _ _ hk)]; rfl
  | false => rw [hk, if_neg Bool.false_ne_true] at hstep; rw [walk_cons_none _ hstep]; rfl

theorem stepNode_head {n : Node} {b : Sym} {d : Option StId} {l : List (Sym × Option StId)}
    (h : n.exact = (b, d) :: l) : stepNode n b = d := by
  rw [stepNode, h, List.lookup_cons_self]

/-- The extra nodes from `<q>_i` on (no collisions), fed the bytes they were made for, consume them and
arrive at `dst`. -/
theorem walk_chain (M : StId → Option Node) (q : Nat) (coll : Nat → Bool) (hc : ∀ j, coll j = false)
    (dst : StId) (nd : Node) (hdst : M dst = some nd) (bs : List Sym) (i : Nat) (hne : bs ≠ [])
    (hM : ∀ j, i ≤ j → M (.chain q j) = lookupId (.chain q j) (chainNodes q coll i none bs (some dst))) :
    ∃ n, M (.chain q i) = some n ∧ walk M n bs = (bs, nd, false) := by
  -- `chainNodes` recurses with other values of these two arguments: they have to be variables for the
  -- induction along it, and each branch gets their values back by `subst`
  generalize hs : (none : Option Sym) = self at hM
  generalize hd : some dst = d at hM
  fun_induction chainNodes q coll i self bs d with
  | case1 => exact absurd rfl hne
  | case2 i self b d => -- last byte: the edge to `dst`
    subst hs hd
    exact ⟨_, (hM i (Nat.le_refl i)).trans (if_pos rfl), walk_cons_some M (stepNode_head rfl) hdst []⟩
  | case3 i self b rest d _ _ h => -- a collision
    exact absurd ((hc _).symm.trans h) Bool.false_ne_true
  | case4 i self b rest d hrest _ _ ih => -- edge to the next extra node
    subst hs hd
    obtain ⟨n', hn', hw⟩ := ih hrest rfl rfl fun j hj =>
      (hM j (Nat.le_of_succ_le hj)).trans (if_neg fun hij => by cases hij; exact Nat.not_succ_le_self _ hj)
    exact ⟨_, (hM i (Nat.le_refl i)).trans (if_pos rfl), by rw [walk_cons_some M (stepNode_head rfl) hn', hw]⟩

/-- a symbol of several bytes that the alphabet names: a chain when its edge leads to a kept state, a
non-transition on the first byte otherwise -/
theorem walk_multi (F : Fsm) (h : F.WF) (hnr : refused F true = false) (q : Nat) (hq : F.kept q = true)
    (x : Nat) (hx : 128 ≤ x) (hnamed : F.named x = true) :
    walk (nodeOfC F true .fixed []) (origNode F true .fixed q) (utf8 x) =
      if F.kept (F.step q x) = true then (utf8 x, origNode F true .fixed (F.step q x), false)
      else ([], origNode F true .fixed q, true) := by
  obtain ⟨nxt, hl⟩ := Option.isSome_iff_exists.mp
    (List.all_eq_true.mp hnamed _ (F.inMap_tab_mem q (kept_inMap F q hq)))
  obtain ⟨b1, b2, l, he, _⟩ := utf8_multi x hx
  -- the node of `q` has just the edges made for `x`
  obtain ⟨hexact, hchains⟩ := exactOf_chainsOf_multi F h hnr q hq x nxt
    (show (utf8 x).length > 1 by rw [he]; exact Nat.le_add_left 2 _) (mem_of_lookup hl) .fixed []
  have hstepq : F.step q x = nxt := by rw [Fsm.step, hl]
  rw [hstepq, he]
  cases hk : F.kept nxt with
  | true =>
    have heb : edgeBytes F true .fixed x nxt = b1 :: b2 :: l := by
      rw [edgeBytes, hk, ← he]; rfl
    have hstep : stepNode (origNode F true .fixed q) b1 = some (.chain q 0) :=
      stepNode_head (by rw [origNode, hexact, symExact, heb])
    obtain ⟨n', hn', hw⟩ := walk_chain (nodeOfC F true .fixed []) q (fun j => [].contains (q, j))
      (fun _ => rfl) (.orig nxt) _ (nodeOfC_orig F true .fixed [] nxt hk) (b2 :: l) 0 (List.cons_ne_nil _ _) fun j _ => by
        rw [nodeOfC, if_pos hq, hchains, symChain, heb, target, hk]; rfl
    rw [walk_cons_some _ hstep hn', hw]; rfl
  | false =>
    have heb : edgeBytes F true .fixed x nxt = [b1] := by
      rw [edgeBytes, hk]
      show (utf8 x).take 1 = [b1]
      rw [he]; rfl
    have hstep : stepNode (origNode F true .fixed q) b1 = none := by
      rw [stepNode, origNode, hexact, symExact, heb]
      by_cases hred : anyEdge F q = some none <;> simp [target, hk, hred]
    rw [walk_cons_none _ hstep]; rfl

theorem walk_char (F : Fsm) (h : F.WF) (bytes : Bool) (hnr : refused F bytes = false) (q : Nat)
    (hq : F.kept q = true) (x : Nat) (hx : bytes = true → x < 128 ∨ F.named x = true) :
    walk (nodeOfC F bytes .fixed []) (origNode F bytes .fixed q) (encode bytes x) =
      if F.kept (F.step q x) = true then (encode bytes x, origNode F bytes .fixed (F.step q x), false)
      else ([], origNode F bytes .fixed q, true) := by
  cases bytes with
  | false => exact walk_single F h false q hq x rfl (headKey_false x)
  | true =>
    rcases Nat.lt_or_ge x 128 with hs | hb
    · rw [show encode true x = [x] from utf8_single x hs]
      exact walk_single F h true q hq x (utf8_single x hs) fun c => headKey_true_ne x c hs
    · exact walk_multi F h hnr q hq x hb ((hx rfl).resolve_left (Nat.not_lt.mpr hb))

theorem walk_encoded (F : Fsm) (h : F.WF) (bytes : Bool) (hnr : refused F bytes = false)
    (w : List Sym) (q : Nat) (hq : F.kept q = true) (hdom : bytes = true → Utf8Dom F w) :
    ∃ st, walk (nodeOfC F bytes .fixed []) (origNode F bytes .fixed q) (w.flatMap (encode bytes)) =
      ((F.liveGo q w).1.flatMap (encode bytes), origNode F bytes .fixed (F.liveGo q w).2, st) := by
  unfold Fsm.liveGo
  fun_induction longestGo F.step F.kept q w with
  | case1 q => exact ⟨false, rfl⟩
  | case2 q x w hk ih => -- (branches as in `longestGo_run`) next state kept
    obtain ⟨st, ih⟩ := ih hk fun hb y hy => hdom hb y (List.mem_cons_of_mem _ hy)
    refine ⟨st, ?_⟩
    rw [List.flatMap_cons, walk_append,
      walk_char F h bytes hnr q hq x fun hb => hdom hb x List.mem_cons_self, if_pos hk]
    simp only [ih, List.flatMap_cons]
  | case3 q x w hk => -- next state dropped
    refine ⟨true, ?_⟩
    rw [List.flatMap_cons, walk_append,
      walk_char F h bytes hnr q hq x fun hb => hdom hb x List.mem_cons_self, if_neg hk]
    rfl

theorem Fsm.kept_init (F : Fsm) (h : F.WF) : F.kept F.init = true := by
  simp [Fsm.kept, h.init, Fsm.dead]

theorem refused_false (F : Fsm) : refused F false = false := by
  simp only [refused, List.any_eq_false, Bool.and_eq_true, not_and, Bool.not_eq_true]
  intro e _ _
  simp only [tabRefused, List.any_eq_false]
  intro x _
  cases x.1 with
  | none => simp
  | some c => simp [encode]

def outcomeOf (p : List Sym) (fin : Bool) : Outcome := if !p.isEmpty && fin then .ok else .nonTerminal

theorem collisions_fixed (F : Fsm) (bytes : Bool) : collisions F bytes .fixed = [] := rfl

theorem encode_ne_nil (bytes : Bool) (x : Sym) : encode bytes x ≠ [] := by
  cases bytes
  · exact List.cons_ne_nil _ _
  · exact utf8_ne_nil x

theorem rxRun_encoded (F : Fsm) (h : F.WF) (bytes : Bool) (hnr : refused F bytes = false) (w : List Sym)
    (hdom : bytes = true → Utf8Dom F w) :
    rxRun F bytes .fixed (w.flatMap (encode bytes)) =
      ⟨outcomeOf (F.liveGo F.init w).1 (F.final (F.liveGo F.init w).2),
       (F.liveGo F.init w).1.flatMap (encode bytes)⟩ := by
  have hk := F.kept_init h
  obtain ⟨st, hw⟩ := walk_encoded F h bytes hnr w F.init hk hdom
  unfold rxRun
  rw [collisions_fixed]
  simp only [hnr, Bool.false_eq_true, if_false, initNode, hk, if_true, initCopy, walk_terminal, hw]
  -- the copy of the initial node is not terminal, and a character consumed is at least a byte consumed
  cases (F.liveGo F.init w).1 <;> simp [outcomeOf, origNode, encode_ne_nil]

theorem rxRun_char (F : Fsm) (h : F.WF) (w : List Sym) :
    rxRun F false .fixed w =
      ⟨outcomeOf (F.liveGo F.init w).1 (F.final (F.liveGo F.init w).2), (F.liveGo F.init w).1⟩ := by
  have := rxRun_encoded F h false (refused_false F) w (fun hb => nomatch hb)
  rwa [show encode false = fun c => [c] from rfl, List.flatMap_singleton', List.flatMap_singleton'] at this

end Cpppo.Regex
