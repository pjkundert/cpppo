import Cpppo.Proofs.Request
import Cpppo.Proofs.Exec
import Cpppo.Proofs.Canon
/-! Server to client: the reference decoder reads back the replies the server produces (status, values, bundles), and
what `exec` builds from a well-formed device meets the conditions of these round trips.  In the middle, the facts about
`chunks`, `decodeStrs` and `decodeVals` (Model/Types) that the value round trip needs. -/
namespace Cpppo.Interop
open Cpppo Cpppo.Logix Cpppo.Fields

/-- the elements survive the trip over the wire: decoding their encodings gives them back -/
def ValsOk (t : CipType) (vs : List Val) : Prop :=
  ∀ chunks, vs.mapM (Val.encode t) = some chunks → decodeVals t chunks.flatten = some vs

def isReadSvc (svc : Nat) : Bool := svc == 0xCC || svc == 0xD2

/-- a reply as the tag services build it, with every field in its wire range -/
structure ReplyOk (r : Reply) : Prop where
  svc_lo : 128 ≤ r.svc
  svc_hi : r.svc < 256
  status_hi : r.status < 256
  ext_len : r.ext.length < 256
  ext_hi : ∀ w ∈ r.ext, w < 65536
  ext_zero : r.status = 0 → r.ext = []
  data : if isReadSvc r.svc = true ∧ (r.status = 0 ∨ r.status = 6)
         then ∃ t, r.ty = some t ∧ r.raw = [] ∧ ValsOk t r.vals
         else r.ty = none ∧ r.vals = []

theorem code_lt (t : CipType) : t.code < 256 ^ 2 := by cases t <;> decide

theorem ofCode_code (t : CipType) : CipType.ofCode t.code = some t := by cases t <;> decide

theorem decStatus_encodeStatus {st : Nat} {ext : List Nat} {rest : Bytes} (h2 : ∀ w ∈ ext, w < 65536)
    (h3 : st = 0 → ext = []) :
    Ref.decStatus (encodeStatus st ext ++ rest) = some (st, ext, rest) := by
  unfold encodeStatus
  split
  · next h0 => subst h0; simp [h3 rfl, Ref.decStatus, words]
  · next h0 => simp [Ref.decStatus, words_le ext rest h2, h0]

/-- **Reply round trip**: the reference decoder reads back exactly the reply the server produced -/
theorem decReply_encodeReply {r : Reply} {bs : Bytes} (h : encodeReply r = some bs) (hok : ReplyOk r) :
    Ref.decReply bs = some r := by
  obtain ⟨h1, h2, h3, h4, h5, h6, h7⟩ := hok
  have hsvc : ¬ (0 ≠ 0 ∨ r.svc < 128) := by omega   -- reserved byte 0, reply bit set
  have hread : ((r.svc = 0xCC ∨ r.svc = 0xD2) ∧ (r.status = 0 ∨ r.status = 6)) ↔
      (isReadSvc r.svc = true ∧ (r.status = 0 ∨ r.status = 6)) := by simp [isReadSvc]
  unfold encodeReply at h
  split at h7
  · rename_i hrd
    obtain ⟨t, hty, hraw, hvals⟩ := h7
    simp only [hty, if_pos hrd.2, Option.map_eq_some_iff] at h
    obtain ⟨chunks, hm, rfl⟩ := h
    simp only [List.cons_append, List.nil_append, List.append_assoc, Ref.decReply, if_neg hsvc,
      decStatus_encodeStatus h5 h6, if_pos (hread.mpr hrd), u_le 2 t.code _ (code_lt t), ofCode_code,
      hraw, List.append_nil, hvals chunks hm]
    cases r; simp_all   -- two `Reply` records: field by field
  · rename_i hrd
    obtain ⟨hty, hvals⟩ := h7
    simp only [hty, Option.some.injEq] at h
    subst h
    simp only [List.cons_append, List.nil_append, Ref.decReply, if_neg hsvc,
      decStatus_encodeStatus h5 h6, if_neg (mt hread.mp hrd)]
    cases r; simp_all

/-- one element survives the wire (decidable) -/
def wireOk (t : CipType) (v : Val) : Bool :=
  match Val.encode t v with
  | some b => decodeVals t b == some [v]
  | none => false

theorem chunks_fuel (k : Nat) : ∀ (f1 f2 : Nat) (bs : Bytes), bs.length ≤ f1 → bs.length ≤ f2 →
    chunks k f1 bs = chunks k f2 bs
  | f1, f2, [], _, _ => by cases f1 <;> cases f2 <;> rfl
  | f1 + 1, f2 + 1, x :: xs, h1, h2 => by
    simp only [chunks, List.isEmpty_cons, Bool.false_eq_true, ↓reduceIte]
    split
    · rfl
    · rw [chunks_fuel k f1 f2 _ (by simp at h1 ⊢; omega) (by simp at h2 ⊢; omega)]

theorem chunks_cons {k : Nat} (hk : 0 < k) {b rest : Bytes} (hb : b.length = k) :
    chunks k (b ++ rest).length (b ++ rest) = (chunks k rest.length rest).map (b :: ·) := by
  subst hb
  obtain ⟨x, xs, rfl⟩ := List.exists_cons_of_length_pos hk
  have hl : (x :: xs ++ rest).length = (xs.length + rest.length) + 1 := by simp
  rw [hl, chunks, if_neg (by simp), if_neg (by simp), List.drop_left, List.take_left,
    chunks_fuel _ _ _ rest (Nat.le_add_left _ _) (Nat.le_refl _)]

def decodeFixed (k : Nat) (f : Bytes → Val) (bs : Bytes) : Option (List Val) :=
  (chunks k bs.length bs).map (·.map f)

theorem decodeFixed_cons {k : Nat} (hk : 0 < k) (f : Bytes → Val) {b : Bytes} (rest : Bytes) (hb : b.length = k) :
    decodeFixed k f (b ++ rest) = (decodeFixed k f rest).map (f b :: ·) := by
  unfold decodeFixed
  rw [chunks_cons hk hb]
  cases chunks k rest.length rest <;> simp

theorem decodeFixed_single {k : Nat} (hk : 0 < k) (f : Bytes → Val) {b : Bytes} (hb : b.length = k) :
    decodeFixed k f b = some [f b] := by
  have := decodeFixed_cons hk f [] hb
  simp only [List.append_nil] at this
  rw [this]
  simp [decodeFixed, chunks]

/-- the non-BOOL fixed-size types decode chunk by chunk, `t.size` bytes at a time -/
def chunkFn : CipType → Option (Bytes → Val)
  | .real => some fun c => .f32 (Float'.quiet32 (Bytes.leNat c))
  | .lreal => some fun c => .f64 (Bytes.leNat c)
  | .sstring | .string | .bool => none
  | t => some fun c => .int (Bytes.unpackInt t.signed t.size c)

theorem decodeVals_fixed {t : CipType} {f : Bytes → Val} (h : chunkFn t = some f) :
    (∀ bs, decodeVals t bs = decodeFixed t.size f bs) ∧ 0 < t.size := by
  cases t <;> simp only [chunkFn, Option.some.injEq, reduceCtorEq] at h <;> subst h <;> exact ⟨fun _ => rfl, by decide⟩

theorem encode_length {t : CipType} {f : Bytes → Val} (h : chunkFn t = some f) {v : Val} {b : Bytes}
    (he : Val.encode t v = some b) : b.length = t.size := by
  revert he
  fun_cases Val.encode t v <;> intro he
  -- no `chunkFn` (BOOL, strings), `none`, or `packInt`; REAL / LREAL remain
  all_goals first | (simp [chunkFn] at h; done) | cases he | exact Bytes.packInt_length _ _ _ _ he
  all_goals exact Bytes.le_length _ _

theorem mapM_cons_some {α β : Type} {f : α → Option β} {x : α} {xs : List α} {ys : List β}
    (h : (x :: xs).mapM f = some ys) : ∃ y ys', f x = some y ∧ xs.mapM f = some ys' ∧ ys = y :: ys' := by
  simp only [List.mapM_cons, Option.bind_eq_bind, Option.bind_eq_some_iff] at h
  obtain ⟨y, hy, ys', hys, h⟩ := h
  simp only [Option.pure_def, Option.some.injEq] at h
  exact ⟨y, ys', hy, hys, h.symm⟩

theorem decodeStr_shorter {t : CipType} {bs s r : Bytes} (hd : decodeStr t bs = some (s, r)) :
    r.length < bs.length := by
  revert hd
  fun_cases decodeStr t bs <;> intro hd <;> cases hd <;> simp only [List.length_drop, List.length_cons] <;> omega

theorem decodeStrs_fuel (t : CipType) : ∀ (f1 f2 : Nat) (bs : Bytes), bs.length ≤ f1 → bs.length ≤ f2 →
    decodeStrs t f1 bs = decodeStrs t f2 bs
  | f1, f2, [], _, _ => by cases f1 <;> cases f2 <;> rfl
  | f1 + 1, f2 + 1, x :: xs, h1, h2 => by
    simp only [decodeStrs, List.isEmpty_cons, Bool.false_eq_true, ↓reduceIte]
    cases hd : decodeStr t (x :: xs) with
    | none => rfl
    | some sr =>
      have := decodeStr_shorter hd
      exact congrArg (Option.map _) (decodeStrs_fuel t f1 f2 sr.2 (by omega) (by omega))

theorem decodeStrs_cons {t : CipType} {b rest : Bytes} {s : Bytes} (hb : b ≠ [])
    (hd : decodeStr t (b ++ rest) = some (s, rest)) :
    decodeStrs t (b ++ rest).length (b ++ rest) = (decodeStrs t rest.length rest).map (.str s :: ·) := by
  obtain ⟨x, xs, rfl⟩ := List.exists_cons_of_ne_nil hb
  have hl : (x :: xs ++ rest).length = (xs.length + rest.length) + 1 := by simp
  rw [hl, decodeStrs, if_neg (by simp), hd]
  exact congrArg (Option.map _) (decodeStrs_fuel t _ _ rest (Nat.le_add_left _ _) (Nat.le_refl _))

theorem decodeStr_enc (t : CipType) (hs : t.isString = true) {v : Val} {b : Bytes} (rest : Bytes) (he : Val.encode t v = some b) :
    ∃ s, v = .str s ∧ b ≠ [] ∧ decodeStr t (b ++ rest) = some (s, rest) := by
  cases t <;> simp [CipType.isString] at hs <;> cases v <;> simp [Val.encode, CipType.isInt] at he
  · obtain ⟨_, rfl⟩ := he
    exact ⟨_, rfl, by simp, by simp [decodeStr]⟩
  · rename_i s
    obtain ⟨hlen, rfl⟩ := he
    have hmod : s.length % 256 + 256 * (s.length / 256 % 256) = s.length := by omega
    refine ⟨s, rfl, by simp [Bytes.le], ?_⟩
    simp only [Bytes.le, List.cons_append, List.nil_append, List.append_assoc, decodeStr, hmod]
    rw [if_neg (padded_fits s rest), drop_padded, List.take_left]

theorem wireOk_str (t : CipType) (hs : t.isString = true) (s : Bytes) (hne : Val.encode t (.str s) ≠ none) :
    wireOk t (.str s) = true := by
  obtain ⟨b, he⟩ := Option.ne_none_iff_exists'.mp hne
  have hdv : decodeVals t b = decodeStrs t b.length b := by cases t <;> simp [CipType.isString] at hs <;> rfl
  obtain ⟨s', hs', hne, hd⟩ := decodeStr_enc t hs [] he
  have := decodeStrs_cons hne hd
  simp only [List.append_nil] at this
  cases hs'
  simp [wireOk, he, hdv, this, decodeStrs]

theorem decodeVals_cons {t : CipType} {v : Val} {b : Bytes} (hb : Val.encode t v = some b) (hv : wireOk t v = true)
    (rest : Bytes) : decodeVals t (b ++ rest) = (decodeVals t rest).map (v :: ·) := by
  cases hcf : chunkFn t with
  | some f =>
    obtain ⟨hdv, hk⟩ := decodeVals_fixed hcf
    have hlen := encode_length hcf hb
    simp only [wireOk, hb, beq_iff_eq] at hv
    rw [hdv, decodeFixed_single hk f hlen] at hv
    simp only [Option.some.injEq, List.cons.injEq, and_true] at hv
    rw [hdv, decodeFixed_cons hk f _ hlen, ← hdv, hv]
  | none =>
    cases t <;> simp [chunkFn] at hcf
    · simp only [wireOk, hb, beq_iff_eq, decodeVals, Option.some.injEq] at hv
      simp [decodeVals, hv]
    -- SSTRING, STRING: `decodeVals` is `decodeStrs`
    all_goals
      obtain ⟨s, rfl, hne, hd⟩ := decodeStr_enc _ rfl rest hb
      exact decodeStrs_cons hne hd

/-- **the elements of a reply survive the wire** when each of them does -/
theorem valsOk_of_wireOk {t : CipType} {vs : List Val} (h : ∀ v ∈ vs, wireOk t v = true) : ValsOk t vs := by
  induction vs with
  | nil => intro chunks hm; simp at hm; subst hm; cases t <;> rfl
  | cons v rest ih =>
    intro chunks hm
    obtain ⟨b, bs, hb, hbs, rfl⟩ := mapM_cons_some hm
    rw [List.flatten_cons, decodeVals_cons hb (h v (by simp)), ih (fun x hx => h x (by simp [hx])) bs hbs]
    rfl

theorem offsetsOf_go (o : Nat) (ms : List Bytes) : offsetsOf.go o ms = Ref.offsetsFrom o ms := by
  fun_induction Ref.offsetsFrom o ms <;> simp_all [offsetsOf.go]

theorem encodeMultiple_eq (ms : List Bytes) : encodeMultiple ms = Ref.encTable ms := by
  simp [encodeMultiple, Ref.encTable, offsetsOf, offsetsOf_go]

theorem wordsBytes_length (os : List Nat) : ((os.map (Bytes.le 2)).flatten).length = 2 * os.length := by
  induction os with
  | nil => rfl
  | cons o rest ih => simp only [List.map_cons, List.flatten_cons, List.length_append, Bytes.le_length, ih, List.length_cons]; omega

theorem encTable_length (ms : List Bytes) : (Ref.encTable ms).length = Ref.tableLen ms := by
  unfold Ref.encTable Ref.tableLen
  rw [List.length_append, List.length_append, wordsBytes_length, Bytes.le_length, offsetsFrom_length, List.length_flatten]

theorem slices_table (ms : List Bytes) (pre : Bytes) :
    Ref.slices (pre ++ ms.flatten) (Ref.offsetsFrom pre.length ms) = some ms := by
  induction ms generalizing pre with
  | nil => rfl
  | cons m rest ih =>
    have hrec := ih (pre ++ m)
    rw [List.length_append, List.append_assoc] at hrec
    cases rest with
    | nil => simp [Ref.offsetsFrom, Ref.slices]
    | cons m' rest' =>
      simp only [Ref.offsetsFrom, Ref.slices, List.flatten_cons] at hrec ⊢
      simp [hrec]

theorem decTable_encodeMultiple {ms : List Bytes} (h : Ref.tableLen ms < 65536) :
    Ref.decTable (encodeMultiple ms) = some ms := by
  have hn : ms.length < 65536 := by unfold Ref.tableLen at h; omega
  -- count and offsets take `2 + 2N` bytes, which is the first offset
  have hsl := slices_table ms
    (Bytes.le 2 ms.length ++ ((Ref.offsetsFrom (2 + 2 * ms.length) ms).map (Bytes.le 2)).flatten)
  rw [List.length_append, wordsBytes_length, Bytes.le_length, offsetsFrom_length, List.append_assoc] at hsl
  rw [encodeMultiple_eq]
  unfold Ref.decTable Ref.encTable
  rw [List.append_assoc, u_le 2 ms.length _ (by omega)]
  simp only [words_offsets ms.flatten h]
  cases ms with
  | nil => rfl
  | cons m rest =>
    simp only [Ref.offsetsFrom, ↓reduceIte] at hsl ⊢
    exact hsl

theorem decReplies_encode {rs : List Reply} {ms : List Bytes} (h : rs.mapM encodeReply = some ms)
    (hok : ∀ r ∈ rs, ReplyOk r) : Ref.decReplies ms = some rs := by
  induction rs generalizing ms with
  | nil => simp at h; subst h; rfl
  | cons r rest ih =>
    obtain ⟨b, bs, hb, hbs, rfl⟩ := mapM_cons_some h
    simp only [Ref.decReplies, decReply_encodeReply hb (hok r (by simp)),
      ih hbs (fun x hx => hok x (by simp [hx]))]

/-- **Bundle reply round trip**: the reference decoder recovers every member reply of a successful
Multiple Service Packet reply -/
theorem decBundle_members {rs : List Reply} {ms : List Bytes} (h : rs.mapM encodeReply = some ms)
    (hok : ∀ r ∈ rs, ReplyOk r) (hlen : Ref.tableLen ms < 65536) :
    Ref.decBundle { svc := svcMulti, status := 0, raw := encodeMultiple ms } = some rs := by
  have hs : svcMulti = 0x8A := by decide
  simp only [Ref.decBundle, hs, true_and, ↓reduceIte, decTable_encodeMultiple hlen, Option.bind_some,
    decReplies_encode h hok]

/-- every stored element of the tag survives the wire (decidable) -/
def tagWireOk (t : Tag) : Bool := t.vals.all (wireOk t.ty)

theorem errReply_ok {svc : Nat} (st : Nat) (ext : List Nat) (h1 : 128 ≤ svc) (h2 : svc < 256)
    (h : st < 256 ∧ st ≠ 0 ∧ st ≠ 6 ∧ ext.length < 256 ∧ ∀ w ∈ ext, w < 65536) : ReplyOk (errReply svc st ext) := by
  obtain ⟨h3, h4, h5, h6, h7⟩ := h
  refine ⟨h1, h2, h3, h6, h7, fun h => absurd h h4, ?_⟩
  simp [errReply, h4, h5]

theorem execTag_replyOk (d : Dev) (self : Nat × Nat) (svc : Nat) (isRead isFrag : Bool) (p : Path)
    (reqTy n off : Nat) (data : Bytes) (h1 : 128 ≤ svc) (h2 : svc < 256) (hrd : isReadSvc svc = isRead)
    (hwire : ∀ c i a tag, resolveTag d self p = some (c, i, a, tag) → tagWireOk tag = true) :
    ReplyOk (execTag d self svc isRead isFrag p reqTy n off data).2 := by
  fun_cases execTag d self svc isRead isFrag p reqTy n off data
  -- the statuses are those of `execTag`: unknown tag, data the tag cannot hold, slice refused; then read, wrote
  · exact errReply_ok 5 [0] h1 h2 (by decide)
  · exact errReply_ok 255 [0x2107] h1 h2 (by decide)
  · exact errReply_ok 255 [0x2105] h1 h2 (by decide)
  · -- read: the elements are a slice of the tag's
    rename_i c i a tag hr wvals _ st vals hacc
    cases isRead with
    | false => exact absurd hacc (tagAccess_write_ne_read _ _ _ _ _ _ _ _)
    | true =>
      obtain ⟨beg, k, -, -, -, -, hv, hst, -⟩ := tagAccess_read_inv hacc
      have hsub : ∀ v ∈ vals, wireOk tag.ty v = true := fun v hv' =>
        List.all_eq_true.mp (hwire c i a tag hr) v (List.mem_of_mem_drop (List.mem_of_mem_take (hv ▸ hv')))
      refine ⟨h1, h2, ?_, by simp, by simp, by simp, ?_⟩
      · show st < 256
        rcases hst with h | h <;> omega
      · simp only [hrd, true_and, hst, ↓reduceIte]
        exact ⟨tag.ty, rfl, valsOk_of_wireOk hsub⟩
  · -- wrote: status 0, no data
    rename_i hacc
    cases isRead with
    | true => exact absurd hacc (tagAccess_read_ne_wrote _ _ _ _ _ _ _)
    | false => constructor <;> simp [h1, h2, hrd]

/-- the four tag services -/
def isTagSvc : Simple → Bool
  | .readTag .. | .readFrag .. | .writeTag .. | .writeFrag .. => true
  | _ => false

/-- every tag the device holds survives the wire (decidable for a concrete device) -/
def devWireOk (d : Dev) : Bool := d.objs.all fun o => o.attrs.all fun x => tagWireOk x.2

theorem attrGet_mem {l : List (Nat × Tag)} {a : Nat} {t : Tag} (h : attrGet l a = some t) : (a, t) ∈ l := by
  fun_induction attrGet l a <;> simp_all

theorem objGet_mem {l : List Obj} {c i : Nat} {o : Obj} (h : objGet l c i = some o) : o ∈ l := by
  fun_induction objGet l c i <;> simp_all

theorem devWireOk_attr {d : Dev} (h : devWireOk d = true) {c i a : Nat} {t : Tag} (ht : d.attr? c i a = some t) :
    tagWireOk t = true := by
  obtain ⟨o, ho, ht⟩ := Option.bind_eq_some_iff.mp ht
  simp only [devWireOk, List.all_eq_true] at h
  exact h o (objGet_mem ho) (a, t) (attrGet_mem ht)

theorem execSimple_replyOk {d : Dev} {s : Simple} (hs : isTagSvc s = true) (hw : devWireOk d = true) :
    ReplyOk (execSimple d s).2 := by
  have hwire : ∀ self p c i a tag, resolveTag d self p = some (c, i, a, tag) → tagWireOk tag = true :=
    fun _ _ _ _ _ _ hr => devWireOk_attr hw (resolveTag_some hr).1
  cases s <;> simp only [isTagSvc, Bool.false_eq_true] at hs <;>
    simp only [execSimple, execSimpleAt] <;>
    apply execTag_replyOk <;> first | decide | exact hwire _ _

theorem wireOk_int {t : CipType} (hi : t.isInt = true) {i : Int} {b : Bytes}
    (h : Bytes.packInt t.signed t.size i = some b) : wireOk t (.int i) = true := by
  obtain ⟨hsz, hcf⟩ : 1 ≤ t.size ∧ chunkFn t = some fun c => .int (Bytes.unpackInt t.signed t.size c) := by
    cases t <;> simp [CipType.isInt] at hi <;> exact ⟨by decide, rfl⟩
  have henc : Val.encode t (.int i) = some b := by rw [Val.encode_int t hi, h]
  obtain ⟨hdv, hk⟩ := decodeVals_fixed hcf
  have hlen := Bytes.packInt_length _ _ _ _ h
  simp only [wireOk, henc, beq_iff_eq]
  rw [hdv, decodeFixed_single hk _ hlen, Bytes.unpack_pack _ _ hsz i b h]

theorem canon_wireOk {t : CipType} (hf : t ≠ .real ∧ t ≠ .lreal) {v : Val} (h : Val.conv t v = some v) :
    wireOk t v = true := by
  -- REAL / LREAL: `conv` keeps any bit pattern (no 2^32 / 2^64 bound, signalling NaNs), which decoding does not give back
  by_cases hi : t.isInt = true
  · -- the eight integer types share `convInt`
    have hc : Val.conv t v = Val.convInt t v := by cases t <;> first | rfl | cases hi
    rw [hc] at h
    cases v <;> simp [Val.convInt] at h
    obtain ⟨b, hb⟩ := h
    exact wireOk_int hi hb
  · cases t <;> simp [CipType.isInt] at hi
    case real => exact absurd rfl hf.1
    case lreal => exact absurd rfl hf.2
    case bool =>
      cases v <;> simp [Val.conv] at h
      rename_i b
      cases b <;> decide
    case sstring | string =>
      cases v <;> simp [Val.conv] at h
      exact wireOk_str _ rfl _ (by simp [Val.encode, h])

theorem tagWireOk_of_wf {t : Tag} (hwf : t.WF) (hf : t.ty ≠ .real ∧ t.ty ≠ .lreal) : tagWireOk t = true := by
  simp only [tagWireOk, List.all_eq_true]
  intro v hv
  exact canon_wireOk hf (hwf.1 v hv)

end Cpppo.Interop
