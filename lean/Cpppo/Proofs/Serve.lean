import Cpppo.Model.Serve
import Cpppo.Props.C05

/-! Lemmas for C08: what the success of each byte reader and decoder says about its input, the work of the bundle
parser, state protection of `exec`. -/
namespace Cpppo.Serve
open Cpppo.Logix

/-- `f` read `v` off the front of `bs` and left `r`: it took exactly `n` bytes, and it reads the same from those `n`
bytes whatever follows them -/
def Reads {α : Type} (f : Bytes → Option (α × Bytes)) (n : Nat) (bs : Bytes) (v : α) (r : Bytes) : Prop :=
  ∃ a : Bytes, a.length = n ∧ bs = a ++ r ∧ ∀ x, f (a ++ x) = some (v, x)

section
variable {α : Type} {f : Bytes → Option (α × Bytes)} {n : Nat} {bs r : Bytes} {v : α}

theorem Reads.length_eq (h : Reads f n bs v r) : bs.length = r.length + n := by
  obtain ⟨a, la, rfl, _⟩ := h
  rw [List.length_append, la, Nat.add_comm]

theorem Reads.append (h : Reads f n bs v r) (x : Bytes) : f (bs ++ x) = some (v, r ++ x) := by
  obtain ⟨a, _, rfl, hf⟩ := h
  rw [List.append_assoc, hf]
end

theorem u8_reads {bs r : Bytes} {v : Nat} (h : u8 bs = some (v, r)) : Reads u8 1 bs v r := by
  match bs, h with
  | b :: t, h => cases h; exact ⟨[v], rfl, rfl, fun _ => rfl⟩

theorem u16_reads {bs r : Bytes} {v : Nat} (h : u16 bs = some (v, r)) : Reads u16 2 bs v r := by
  match bs, h with
  | a :: b :: t, h => cases h; exact ⟨[a, b], rfl, rfl, fun _ => rfl⟩

theorem u32_reads {bs r : Bytes} {v : Nat} (h : u32 bs = some (v, r)) : Reads u32 4 bs v r := by
  match bs, h with
  | a :: b :: c :: d :: t, h => cases h; exact ⟨[a, b, c, d], rfl, rfl, fun _ => rfl⟩

theorem u16_len {bs r : Bytes} {v : Nat} (h : u16 bs = some (v, r)) : bs.length = r.length + 2 :=
  (u16_reads h).length_eq

theorem takeN_spec {n : Nat} {bs a r : Bytes} (h : takeN n bs = some (a, r)) :
    bs = a ++ r ∧ a.length = n := by
  unfold takeN at h
  split at h
  · cases h
  · cases h
    exact ⟨(List.take_append_drop n bs).symm, by rw [List.length_take]; omega⟩

theorem takeN_reads {n : Nat} {bs a r : Bytes} (h : takeN n bs = some (a, r)) : Reads (takeN n) n bs a r := by
  obtain ⟨e, la⟩ := takeN_spec h
  refine ⟨a, la, e, fun x => ?_⟩
  rw [takeN, if_neg (by rw [List.length_append]; omega), List.take_left' la, List.drop_left' la]

theorem takeN_append {n : Nat} {bs a r : Bytes} (x : Bytes) (h : takeN n bs = some (a, r)) :
    takeN n (bs ++ x) = some (a, r ++ x) :=
  (takeN_reads h).append x

theorem readU16s_len {n : Nat} {bs r : Bytes} {vs : List Nat} (h : readU16s n bs = some (vs, r)) :
    bs.length = r.length + 2 * n ∧ vs.length = n := by
  revert h
  fun_induction readU16s n bs generalizing vs
  all_goals intro h
  · cases h; exact ⟨rfl, rfl⟩  -- none to read
  · cases h  -- fewer than two bytes
  · rename_i h1 ih  -- one number, then the others
    obtain ⟨p, h2, e⟩ := Option.map_eq_some_iff.mp h
    cases e
    obtain ⟨hl, hv⟩ := ih h2
    have := u16_len h1
    exact ⟨by omega, by rw [List.length_cons, hv]⟩

theorem headerSize_eq : headerSize = 24 := by decide

theorem u8_app {bs r : Bytes} {v : Nat} (h : u8 bs = some (v, r)) : ∃ a : Bytes, a.length = 1 ∧ bs = a ++ r :=
  let ⟨a, la, e, _⟩ := u8_reads h
  ⟨a, la, e⟩

theorem parseHeader_reads {bs r : Bytes} {h : Header} (hp : parseHeader bs = some (h, r)) :
    Reads parseHeader 24 bs h r := by
  revert hp
  fun_cases parseHeader bs
  all_goals intro hp
  all_goals cases hp
  -- the one branch left: all six readers succeeded, in the order of the header's fields
  rename_i cmd r1 h1 len r2 h2 session r3 h3 status r4 h4 ctx r5 h5 options h6
  obtain ⟨a1, l1, rfl, f1⟩ := u16_reads h1
  obtain ⟨a2, l2, rfl, f2⟩ := u16_reads h2
  obtain ⟨a3, l3, rfl, f3⟩ := u32_reads h3
  obtain ⟨a4, l4, rfl, f4⟩ := u32_reads h4
  obtain ⟨a5, l5, rfl, f5⟩ := takeN_reads h5
  obtain ⟨a6, l6, rfl, f6⟩ := u32_reads h6
  refine ⟨a1 ++ (a2 ++ (a3 ++ (a4 ++ (a5 ++ a6)))), ?_, ?_, fun x => ?_⟩
  · simp [*]
  · simp
  · simp [parseHeader, *]

theorem parseHeader_len {bs r : Bytes} {h : Header} (hp : parseHeader bs = some (h, r)) :
    bs.length = r.length + 24 :=
  (parseHeader_reads hp).length_eq

theorem splitFrame_spec {bs pl rest : Bytes} {h : Header} (hs : splitFrame bs = some (h, pl, rest)) :
    bs = bs.take 24 ++ pl ++ rest ∧ pl.length = h.len ∧ bs.length = 24 + h.len + rest.length := by
  revert hs
  fun_cases splitFrame bs
  all_goals intro hs
  all_goals cases hs
  rename_i hp ht
  obtain ⟨a, la, rfl, _⟩ := parseHeader_reads hp
  obtain ⟨rfl, hpl⟩ := takeN_spec ht
  refine ⟨?_, hpl, ?_⟩
  · rw [List.take_left' la, List.append_assoc]
  · simp only [List.length_append, la]; omega

theorem splitFrame_progress {bs pl rest : Bytes} {h : Header} (hs : splitFrame bs = some (h, pl, rest)) :
    rest.length + 24 ≤ bs.length := by
  have := (splitFrame_spec hs).2.2; omega

theorem splitFrame_append {bs pl rest : Bytes} {h : Header} (x : Bytes) (hs : splitFrame bs = some (h, pl, rest)) :
    splitFrame (bs ++ x) = some (h, pl, rest ++ x) := by
  revert hs
  fun_cases splitFrame bs
  all_goals intro hs
  all_goals cases hs
  rename_i hp ht
  simp only [splitFrame, (parseHeader_reads hp).append x, takeN_append x ht]

theorem serveStream_none (fate : Nat → Bool) (fuel k : Nat) (d : Dev) {bs : Bytes} (hs : splitFrame bs = none) :
    serveStream fate fuel k d bs = (d, []) := by
  cases fuel with
  | zero => rfl
  | succ n => simp only [serveStream, hs]

theorem serveStream_nil (fate : Nat → Bool) (fuel k : Nat) (d : Dev) : serveStream fate fuel k d [] = (d, []) :=
  serveStream_none fate fuel k d rfl

theorem serveStream_count (fate : Nat → Bool) (fuel k : Nat) (d : Dev) (bs : Bytes) :
    (serveStream fate fuel k d bs).2.length * 24 ≤ bs.length := by
  -- the branches of `serveStream`: fuel spent; no complete frame; a frame and the session goes on; a frame and it ends
  fun_induction serveStream fate fuel k d bs
  · exact Nat.zero_le _
  · exact Nat.zero_le _
  · rename_i hrec ih
    have := splitFrame_progress ‹_›
    rw [hrec] at ih
    simp only [List.length_cons] at ih ⊢
    omega
  · have := splitFrame_progress ‹_›
    simp only [List.length_cons, List.length_nil]
    omega

/-- the loop never ends because the fuel ran out: any two amounts of fuel that cover the stream's length give the same
run, since every turn takes at least a header off the stream -/
theorem serveStream_fuel (fate : Nat → Bool) (f1 f2 k : Nat) (d : Dev) (bs : Bytes)
    (h1 : bs.length ≤ f1) (h2 : bs.length ≤ f2) :
    serveStream fate f1 k d bs = serveStream fate f2 k d bs := by
  induction f1 generalizing f2 k d bs with
  | zero =>
    obtain rfl := List.eq_nil_of_length_eq_zero (Nat.le_zero.mp h1)
    exact (serveStream_nil fate f2 k d).symm
  | succ n ih =>
    cases f2 with
    | zero =>
      obtain rfl := List.eq_nil_of_length_eq_zero (Nat.le_zero.mp h2)
      exact serveStream_nil fate _ k d
    | succ m =>
      unfold serveStream
      split
      · rfl
      · rename_i h pl rest hs
        have hp := splitFrame_progress hs
        dsimp only
        rw [ih m (k + 1) (serveFrame d h pl).1 rest (by omega) (by omega)]

theorem segSize_ge {bs : Bytes} {n : Nat} (h : segSize bs = some n) : 2 ≤ n := by
  -- every way out of the type tests is `none` or `some (2 + _)`
  revert h
  fun_cases segSize bs
  all_goals intro h
  all_goals cases h
  all_goals simp only [Nat.add_assoc, Nat.le_add_right, Nat.reduceLeDiff]

theorem decodeSeg_progress {bs r : Bytes} {s : Seg} (h : decodeSeg bs = some (s, r)) : r.length + 2 ≤ bs.length := by
  revert h
  fun_cases decodeSeg bs
  all_goals intro h
  all_goals cases h
  have := segSize_ge ‹_›
  rw [List.length_drop]; omega

theorem decodeSegs_count {fuel : Nat} {bs : Bytes} {segs : List Seg} (h : decodeSegs fuel bs = some segs) :
    2 * segs.length ≤ bs.length := by
  revert h
  fun_induction decodeSegs fuel bs generalizing segs
  all_goals intro h
  · cases h; exact Nat.le_refl _  -- no bytes left
  · cases h  -- fuel spent
  · cases h  -- no segment
  · rename_i hd ih  -- a segment, then the rest
    obtain ⟨ss, hr, rfl⟩ := Option.map_eq_some_iff.mp h
    have := ih hr
    have := decodeSeg_progress hd
    rw [List.length_cons]; omega

theorem decodeEpath_progress {padded : Bool} {bs rest : Bytes} {p : Path}
    (h : decodeEpath padded bs = some (p, rest)) : 2 * p.length + rest.length + 1 ≤ bs.length := by
  revert h
  fun_cases decodeEpath padded bs
  all_goals intro h
  iterate 3 cases h  -- no size byte, no pad byte, fewer than `2 * size` bytes
  -- the branch left: size byte, `r0` behind it, `r1` behind the pad if any, the segment bytes `sb`
  rename_i size r0 r1 hr1 sb _ ht
  obtain ⟨segs, hs, e⟩ := Option.map_eq_some_iff.mp h
  cases e
  have hr1' : r1.length ≤ r0.length := by
    split at hr1
    · obtain ⟨q, hu, rfl⟩ := Option.map_eq_some_iff.mp hr1
      have := (u8_reads hu).length_eq; omega
    · cases hr1; exact Nat.le_refl _
  have := decodeSegs_count hs
  obtain ⟨rfl, hsb⟩ := takeN_spec ht
  rw [List.length_append] at hr1'
  rw [List.length_cons]; omega

/-- size of a parsed request: the request itself and every path segment (and every member of a bundle) -/
def simpleNodes (s : Simple) : Nat := 1 + (simplePath s).length

def reqNodes : Req → Nat
  | .simple s => simpleNodes s
  | .multiple p ms => 1 + p.length + (ms.map simpleNodes).sum

theorem decodeSimple_nodes {bs : Bytes} {s : Simple} (h : decodeSimple bs = some s) :
    2 * simpleNodes s ≤ bs.length := by
  -- every way out is `none` or a request on the path decoded behind the service byte
  revert h
  fun_cases decodeSimple bs
  all_goals intro h
  all_goals cases h
  all_goals
    have := decodeEpath_progress ‹decodeEpath false _ = _›
    simp only [simpleNodes, simplePath, List.length_cons]
    omega

theorem slices_length (body : Bytes) (offs : List Nat) : (slices body offs).length = offs.length := by
  fun_induction slices body offs <;> simp [*]

/-- the member byte strings lie side by side inside the bundle body, from the first offset on -/
theorem slices_sum (body : Bytes) (o : Nat) (rest : List Nat) (hinc : increasing (o :: rest) = true) :
    ((slices body (o :: rest)).map List.length).sum ≤ body.length - o := by
  induction rest generalizing o with
  | nil => simp [slices]
  | cons o' rest' ih =>
    simp only [increasing, Bool.and_eq_true, decide_eq_true_eq] at hinc
    have := ih o' hinc.2
    simp only [slices, List.map_cons, List.sum_cons, List.length_take, List.length_drop] at this ⊢
    omega

theorem sum_map_le_sum {α : Type} (f g : α → Nat) (l : List α) (h : ∀ x ∈ l, f x ≤ g x) :
    (l.map f).sum ≤ (l.map g).sum := by
  induction l with
  | nil => exact Nat.le_refl _
  | cons a t ih =>
    have h1 := h a List.mem_cons_self
    have h2 := ih fun x hx => h x (List.mem_cons_of_mem _ hx)
    simp only [List.map_cons, List.sum_cons]
    omega

theorem sum_map_mul_left {α : Type} (k : Nat) (f : α → Nat) (l : List α) :
    (l.map fun x => k * f x).sum = k * (l.map f).sum := by
  induction l with
  | nil => rfl
  | cons a t ih => simp only [List.map_cons, List.sum_cons, ih, Nat.mul_add]

theorem mapM_sum_le {α β : Type} {f : α → Option β} {l : List α} {r : List β} (a b : α → Nat) (g : β → Nat)
    (h : l.mapM f = some r) (hle : ∀ x y, f x = some y → a x + g y ≤ b x) :
    (l.map a).sum + (r.map g).sum ≤ (l.map b).sum := by
  induction l generalizing r with
  | nil => cases h; exact Nat.le_refl _
  | cons x t ih =>
    simp only [List.mapM_cons, Option.bind_eq_bind, Option.bind_eq_some_iff, Option.pure_def, Option.some.injEq] at h
    obtain ⟨y, hy, ys, hys, rfl⟩ := h
    have := ih hys
    have := hle x y hy
    simp only [List.map_cons, List.sum_cons]
    omega

/-- the member byte strings: as many as the count says (≥ 1), side by side inside the body behind the table -/
theorem memberSlices_spec {body : Bytes} {ms : List Bytes} (h : memberSlices body = some ms) :
    (ms.map List.length).sum + 2 * ms.length + 2 ≤ body.length ∧ 1 ≤ ms.length := by
  revert h
  fun_cases memberSlices body
  all_goals intro h
  all_goals cases h
  -- the branch left: count `num` ≠ 0, `num` offsets read, the three conditions on them `hc`
  rename_i num r hu _ offs _ hr hc
  obtain ⟨hhead, hinc, _⟩ := hc
  match offs, hhead with
  | o :: rest, hhead =>
    cases hhead
    obtain ⟨hl, hn⟩ := readU16s_len hr
    have hb := u16_len hu
    have hsum := slices_sum body _ rest hinc
    rw [slices_length, hn]
    rw [List.length_cons] at hn
    omega

theorem decodeReq_eq_some {bs : Bytes} {r : Req} (h : decodeReq bs = some r) :
    (∃ s, decodeSimple bs = some s ∧ r = .simple s) ∨
    ∃ r0 p body sl ms, bs = Generated.svcMultiple :: r0 ∧ decodeEpath false r0 = some (p, body)
      ∧ memberSlices body = some sl ∧ sl.mapM decodeSimple = some ms ∧ r = .multiple p ms := by
  revert h
  fun_cases decodeReq bs
  all_goals intro h
  iterate 2 cases h  -- empty; a bundle without a path
  · rename_i r0 p body he  -- a bundle
    obtain ⟨ms, hm, rfl⟩ := Option.map_eq_some_iff.mp h
    unfold decodeMembers at hm
    split at hm
    · cases hm
    · exact .inr ⟨r0, p, body, _, ms, rfl, he, ‹_›, hm, rfl⟩
  · obtain ⟨s, hs, rfl⟩ := Option.map_eq_some_iff.mp h  -- any other service
    exact .inl ⟨s, hs, rfl⟩

/-- **the parse tree is no larger than the input**: requests, path segments and bundle members together
(each of them one pass of a parser loop) number at most half the bytes -/
theorem decodeReq_nodes {bs : Bytes} {r : Req} (h : decodeReq bs = some r) : 2 * reqNodes r ≤ bs.length := by
  obtain ⟨s, hs, rfl⟩ | ⟨r0, p, body, sl, ms, rfl, he, hsl, hmm, rfl⟩ := decodeReq_eq_some h
  · exact decodeSimple_nodes hs
  · have := decodeEpath_progress he
    have := (memberSlices_spec hsl).1
    have hsum := mapM_sum_le (fun _ => 0) List.length (fun s => 2 * simpleNodes s) hmm fun _ _ hxy => by
      have := decodeSimple_nodes hxy
      omega
    rw [sum_map_mul_left] at hsum
    simp only [reqNodes, List.length_cons]
    omega

theorem scanCost_bundle (fuel : Nat) {r0 body : Bytes} {p : Path} {ms : List Bytes}
    (he : decodeEpath false r0 = some (p, body)) (hm : memberSlices body = some ms) :
    scanCost (fuel + 1) (Generated.svcMultiple :: r0) = r0.length + 1 + ((ms.map (scanCost fuel)).sum) := by
  simp only [scanCost, he, hm, if_true, List.length_cons]

theorem scanCost_succ (fuel : Nat) (bs : Bytes) :
    scanCost (fuel + 1) bs = bs.length ∨
    ∃ r0 p body ms, bs = Generated.svcMultiple :: r0 ∧ decodeEpath false r0 = some (p, body)
      ∧ memberSlices body = some ms := by
  unfold scanCost
  split
  · exact .inl rfl
  split
  · rename_i hsvc
    subst hsvc
    split
    · exact .inl rfl
    split
    · exact .inl rfl
    · exact .inr ⟨_, _, _, _, rfl, ‹_›, ‹_›⟩
  · exact .inl rfl

theorem scanCost_simple {bs : Bytes} {s : Simple} (h : decodeSimple bs = some s) (fuel : Nat) :
    scanCost fuel bs ≤ bs.length := by
  cases fuel with
  | zero => exact Nat.zero_le _
  | succ n =>
    obtain e | ⟨r0, _, _, _, rfl, _⟩ := scanCost_succ n bs
    · exact Nat.le_of_eq e
    · -- `decodeSimple` knows no Multiple Service Packet
      have : decodeSimple (Generated.svcMultiple :: r0) = none := by
        simp only [decodeSimple]
        split <;> rfl
      rw [this] at h
      cases h

/-- the request is decoded from a part of the unconnected-data item: all of it, or what an Unconnected Send wraps -/
theorem decodeBody_some {d : Dev} {body : Bytes} {r : Req} (h : decodeBody d body = some r) :
    ∃ req : Bytes, decodeReq req = some r ∧ req.length ≤ body.length := by
  have tgt {bs : Bytes} (h : decodeTarget d bs = some r) : decodeReq bs = some r := by
    revert h
    fun_cases decodeTarget d bs
    all_goals intro h
    all_goals cases h
    assumption
  revert h
  fun_cases decodeBody d body
  all_goals intro h
  case case5 =>  -- the request inside an Unconnected Send
    refine ⟨_, tgt h, Nat.le_trans (List.length_take_le' _ _) ?_⟩
    have := decodeEpath_progress ‹decodeEpath false _ = _›
    have := u16_len ‹u16 _ = _›
    simp only [List.length_cons] at *
    omega
  case case10 => exact ⟨_, tgt h, Nat.le_refl _⟩  -- the bare request
  all_goals cases h  -- every other branch is `none`

/-- a decoded frame's request was decoded, by `decodeReq`, from bytes inside the payload, behind its 16 bytes of
interface, timeout and CPF fields -/
theorem decodeFrame_request {d : Dev} {h : Header} {pl : Bytes} {dec : Decoded} (hd : decodeFrame d h pl = some dec) :
    ∃ req : Bytes, decodeReq req = some dec.req ∧ req.length + 16 ≤ pl.length := by
  revert hd
  fun_cases decodeFrame d h pl
  all_goals intro hd
  case case2 => cases hd  -- not a SendRRData / SendUnitData with status 0
  revert hd
  fun_cases decodePayload d pl
  all_goals intro hd
  case case3 =>  -- interface, timeout and the five CPF fields read and consistent
    obtain ⟨r, hb, rfl⟩ := Option.map_eq_some_iff.mp hd
    obtain ⟨req, hreq, _⟩ := decodeBody_some hb
    have := (readU16s_len ‹readU16s 5 _ = _›).1
    have := (u32_reads ‹u32 pl = _›).length_eq
    have := u16_len ‹u16 _ = _›
    exact ⟨req, hreq, by omega⟩
  all_goals cases hd

def isWrite : Simple → Bool
  | .writeTag .. | .writeFrag .. | .setAttrSingle .. => true
  | _ => false

theorem execAttr_noop {d : Dev} {self : Nat × Nat} {s : Simple}
    (h : ¬ (isWrite s = true ∧ (execAttr d self s).2.status = 0)) : (execAttr d self s).1 = d := by
  generalize hx : execAttr d self s = x at h ⊢
  cases execAttr_outcome hx with
  | quiet => rfl
  | stored e => subst e; exact absurd ⟨rfl, rfl⟩ h  -- only a Set Attribute Single stores anything

/-- a request changes the device only if it is a write service acknowledged with status 0 -/
theorem execSimpleAt_noop (d : Dev) (at_ : Nat × Nat) (s : Simple)
    (h : ¬ (isWrite s = true ∧ (execSimpleAt d at_ s).2.status = 0)) : (execSimpleAt d at_ s).1 = d := by
  unfold execSimpleAt at h ⊢
  cases s with
  | readTag | readFrag => apply execTag_read_noop
  | writeTag | writeFrag => exact execTag_refused_noop (h := fun h0 => h ⟨rfl, h0⟩) ..
  | _ => exact execAttr_noop h  -- the attribute services

/-- some member, in the state in which it is executed, is a write acknowledged with status 0 -/
def AcceptedWriteAt (at_ : Nat × Nat) : Dev → List Simple → Prop
  | _, [] => False
  | d, s :: rest =>
    (isWrite s = true ∧ (execSimpleAt d at_ s).2.status = 0) ∨ AcceptedWriteAt at_ (execSimpleAt d at_ s).1 rest

/-- the request is (or its bundle contains) a write service that the device acknowledges with status 0 -/
def AcceptedWrite (d : Dev) : Req → Prop
  | .simple s => isWrite s = true ∧ (execSimple d s).2.status = 0
  | .multiple p ms => AcceptedWriteAt ((routeTarget d router p).getD router) d ms

theorem execMembers_change (at_ : Nat × Nat) (d : Dev) (ms : List Simple)
    (h : (execMembers d at_ ms).1 ≠ d) : AcceptedWriteAt at_ d ms := by
  induction ms generalizing d with
  | nil => simp [execMembers] at h
  | cons s rest ih =>
    simp only [execMembers] at h
    by_cases hw : isWrite s = true ∧ (execSimpleAt d at_ s).2.status = 0
    · exact Or.inl hw
    · have hd := execSimpleAt_noop d at_ s hw
      rw [hd] at h
      exact .inr (hd.symm ▸ ih d h)

end Cpppo.Serve
