import Cpppo.Model.Session
import Cpppo.Proofs.Exec
/-! Helper lemmas for C06 (`Cpppo.Session`): the random source, the service byte of every reply the
tag-serving core produces, `process` by kind of frame, the `serve` loop over a concatenation of inputs. -/
namespace Cpppo.Session
open Cpppo Cpppo.Logix

theorem pickNonzero_some {l : List Nat} {h : Nat} {rest : List Nat}
    (hp : pickNonzero l = some (h, rest)) : h ≠ 0 ∧ h ∈ l := by
  revert hp
  -- `pickNonzero`: empty list; a zero, skipped; a non-zero head, taken
  fun_induction pickNonzero l <;> intro hp
  · cases hp
  · rename_i ih
    exact ⟨(ih hp).1, List.mem_cons_of_mem _ (ih hp).2⟩
  · cases hp
    exact ⟨‹_›, List.mem_cons_self⟩

theorem pickNonzero_some_of_mem {l : List Nat} {x : Nat} (hx : x ∈ l) (h0 : x ≠ 0) :
    ∃ h rest, pickNonzero l = some (h, rest) := by
  fun_induction pickNonzero l
  · cases hx
  · rename_i ih
    rcases List.mem_cons.mp hx with rfl | hm
    · contradiction
    · exact ih hm
  · exact ⟨_, _, rfl⟩

/-! ### the first byte of a reply of the tag-serving core is the request's service code with bit 7 set -/

theorem encodeReply_head {r : Logix.Reply} {bs : Bytes} (h : encodeReply r = some bs) : bs.head? = some r.svc := by
  revert h
  -- typed data (status 0 / 6); typed, another status; untyped
  fun_cases encodeReply r <;> intro h
  · obtain ⟨_, _, rfl⟩ := Option.map_eq_some_iff.mp h
    rfl
  · cases h
    rfl
  · cases h
    rfl

theorem execTag_svc (d : Dev) (self : Nat × Nat) (svc : Nat) (isRead isFrag : Bool) (p : Path)
    (reqTy n off : Nat) (data : Bytes) :
    (execTag d self svc isRead isFrag p reqTy n off data).2.svc = svc := by
  generalize hx : execTag d self svc isRead isFrag p reqTy n off data = x
  cases execTag_outcome hx <;> rfl

theorem execAttr_svc (d : Dev) (self : Nat × Nat) (s : Simple) : (execAttr d self s).2.svc = attrSvc s := by
  generalize hx : execAttr d self s = x
  cases execAttr_outcome hx with
  | quiet r hsvc => exact hsvc
  | stored => rfl

theorem execSimpleAt_svc (d : Dev) (at_ : Nat × Nat) (s : Simple) :
    (execSimpleAt d at_ s).2.svc = simpleService s + 128 := by
  cases s <;> simp only [execSimpleAt, execTag_svc, execAttr_svc] <;> rfl

theorem execMultiple_svc {d : Dev} {p : Path} {reqs : List Simple} {r : Logix.Reply}
    (h : (execMultiple d p reqs).2 = some r) : r.svc = Generated.svcMultiple + 128 := by
  revert h
  -- unknown target; a member reply not producible; the bundle's reply
  fun_cases execMultiple d p reqs <;> intro h <;> cases h <;> rfl

theorem service_or (r : Req) : reqService r + 128 = reqService r ||| 128 := by
  -- a table of eight service codes, all below 128
  cases r with
  | simple s => cases s <;> (simp only [reqService, simpleService]; decide)
  | multiple p rs => simp only [reqService]; decide

theorem exec_head {d d' : Dev} {r : Req} {bs : Bytes} (h : exec d r = (d', some bs)) :
    bs.head? = some (reqService r ||| 128) := by
  rw [← service_or]
  cases r with
  | simple s =>
    have h2 : encodeReply (execSimple d s).2 = some bs := congrArg Prod.snd h
    rw [encodeReply_head h2]
    simp only [execSimple, execSimpleAt_svc, reqService]
  | multiple p rs =>
    have h2 : (execMultiple d p rs).2.bind encodeReply = some bs := congrArg Prod.snd h
    obtain ⟨rep, hr, he⟩ := Option.bind_eq_some_iff.mp h2
    rw [encodeReply_head he, execMultiple_svc hr]
    rfl

/-- a write that would succeed on a refusing Attribute is answered 0xFF / 0x2105 and changes nothing; every other
request is executed as by `exec` -/
theorem execReq_eq (refusing : List (Nat × Nat × Nat)) (d : Dev) (r : Req) :
    execReq refusing d r = exec d r ∨
      execReq refusing d r = (d, encodeReply (errReply (reqService r + 128) 255 [0x2105])) := by
  fun_cases execReq refusing d r
  case case1 => exact Or.inr rfl   -- refusing target, the write succeeds
  case case2 =>                    -- refusing target, the write fails
    rename_i hx _
    exact Or.inl hx.symm
  all_goals exact Or.inl rfl       -- otherwise `exec d r`

theorem execReq_head {refusing : List (Nat × Nat × Nat)} {d d' : Dev} {r : Req} {bs : Bytes}
    (h : execReq refusing d r = (d', some bs)) : bs.head? = some (reqService r ||| 128) := by
  rcases execReq_eq refusing d r with e | e <;> rw [e] at h
  · exact exec_head h
  · rw [encodeReply_head (Prod.mk.inj h).2, ← service_or]
    rfl

theorem cmServe_none {s : Srv} {c : Cip}
    (h : (∃ code p raw, c = .unknown code p raw) ∨
      ∃ r raw, c = .req r raw ∧ (execReq s.refusing s.dev r).2 = none) : ∃ s', cmServe s c = (s', none) := by
  rcases h with ⟨code, p, raw, rfl⟩ | ⟨r, raw, rfl, he⟩
  · exact ⟨_, rfl⟩
  · exact ⟨_, Prod.ext rfl he⟩

/-- the Connection Manager always answers its own services, with the request's service code with bit 7 set -/
theorem execCm_head (s : Srv) (r : CmReq) (raw : Bytes) :
    (execCm s r).2.head? = some (Cip.service (.cm r raw) ||| 128) := by
  have hs : ∀ large, fwdOpenRpy large =
      (if large then Generated.svcFwdOpenLarge else Generated.svcFwdOpen) ||| 128 := by decide
  fun_cases execCm s r
  case case6 =>   -- Forward Close
    simp only [Cip.service, List.cons_append, List.head?_cons, Option.some.injEq]
    decide
  -- Forward Open, refused or accepted: starts with `fwdOpenRpy large`
  all_goals
    simp only [Cip.service, ← hs]
    rfl

theorem sendFraming_eq (iface timeout : Nat) (bs : Bytes) :
    sendFraming iface timeout bs =
      Bytes.le 4 iface ++ Bytes.le 2 timeout ++ [2, 0] ++ ([0, 0] ++ [0, 0]) ++
        (Bytes.le 2 Generated.cpfUnconnected ++ Bytes.le 2 bs.length ++ bs) := by
  simp [sendFraming, cpfEncode, Bytes.le]

theorem sendFraming_ne_nil (iface timeout : Nat) (bs : Bytes) : sendFraming iface timeout bs ≠ [] := by
  simp [sendFraming, Bytes.le]

theorem refuse_eq (f : Frame) : refuse f = .reply (echo f (failStatus f.hdr.status) []) := rfl

theorem failStatus_ne_zero (st : Nat) : failStatus st ≠ 0 := by
  unfold failStatus
  split
  · decide
  · assumption

theorem sizeFailStatus_ne_zero : sizeFailStatus ≠ 0 := by decide

/-- frames that are, by design, not answered: an Unregister Session within the size limit -/
def Frame.silent (cfg : Cfg) (f : Frame) : Bool := f.isUnregister && fits cfg f

/-- what a reply shares with its request -/
structure Echoes (f : Frame) (r : ReplyFrame) : Prop where
  command : r.command = f.command
  context : r.context = f.hdr.context
  options : r.options = f.hdr.options
  session : f.isRegister = false → r.session = f.hdr.session
  handle  : f.isRegister = true → r.status = 0 → r.session ≠ 0

theorem echo_echoes (f : Frame) (st : Nat) (pl : Bytes) (h : f.isRegister = true → st ≠ 0) : Echoes f (echo f st pl) :=
  ⟨rfl, rfl, rfl, fun _ => rfl, fun h' h0 => absurd h0 (h h')⟩

section
variable (fixed : Bool) (cfg : Cfg) (s : Srv) (f : Frame)

theorem processBody_unparsable (h : f.parsable = false) :
    processBody fixed cfg s f = (s, .abort) := by
  unfold processBody
  cases hb : f.body <;> simp_all [Frame.parsable]

theorem process_unparsable (h : f.parsable = false) :
    processWith fixed cfg s f = (s, .abort) := by
  simp [processWith, h, processBody_unparsable fixed cfg s f h]

theorem processBody_unregister (h : f.isUnregister = true) :
    processBody fixed cfg s f = ({ s with session := none }, .close) := by
  unfold processBody
  cases hb : f.body <;> simp_all [Frame.isUnregister]

theorem process_unregister (h : f.silent cfg = true) :
    processWith fixed cfg s f = ({ s with session := none }, .close) := by
  simp only [Frame.silent, Bool.and_eq_true] at h
  simp [processWith, h.2, processBody_unregister fixed cfg s f h.1]

theorem processWith_fits (hf : fits cfg f = true) :
    processWith fixed cfg s f = processBody fixed cfg s f := by
  simp [processWith, hf]

/-- a payload over the size limit: one header-only frame with a non-zero status -/
theorem process_oversize (hp : f.parsable = true)
    (hf : fits cfg f = false) : processWith fixed cfg s f = (s, .reply (echo f sizeFailStatus [])) := by
  simp [processWith, hp, hf]

/-- Every frame the parser accepts, but Unregister Session, is answered: Register Session with the non-zero handle drawn
(or refused), every other one by some `echo f ..` (`refuse f` is one). -/
theorem process_answers (hp : f.parsable = true)
    (hu : f.silent cfg = false) : ∃ s' r, processWith fixed cfg s f = (s', .reply r) ∧ Echoes f r := by
  cases hf : fits cfg f with
  | false =>
    exact ⟨_, _, process_oversize fixed cfg s f hp hf, echo_echoes _ _ _ fun _ => sizeFailStatus_ne_zero⟩
  | true =>
    have hu' : f.isUnregister = false := by simpa [Frame.silent, hf] using hu
    rw [processWith_fits fixed cfg s f hf]
    fun_cases processBody fixed cfg s f
    -- branches of `processBody`: 1-2 Register Session (refused / handle drawn), 3 short Register, 4 Unregister Session,
    -- 5-8 the List* / legacy commands, 9 another item list, 10 unknown command, 11-14 a routed and 15-19 a local send
    case case1 => exact ⟨_, _, rfl, echo_echoes _ _ _ fun _ => failStatus_ne_zero _⟩
    case case2 =>
      rename_i hpk
      exact ⟨_, _, rfl, rfl, rfl, rfl, fun h => by simp [Frame.isRegister, *] at h,
        fun _ _ => (pickNonzero_some hpk).1⟩
    case case3 | case10 => simp_all [Frame.parsable]
    case case4 => simp_all [Frame.isUnregister]
    all_goals exact ⟨_, _, rfl, echo_echoes _ _ _ fun h => by simp [Frame.isRegister, *] at h⟩

end

theorem serveWith_nil (fixed : Bool) (cfg : Cfg) (s : Srv) : serveWith fixed cfg s [] = ⟨s, [], 0, .open⟩ := rfl

theorem serveWith_refused {fixed : Bool} {cfg : Cfg} {s s' : Srv} {f : Frame} {r : ReplyFrame} (rest : List Frame)
    (h : processWith fixed cfg s f = (s', .reply r)) (h0 : r.status ≠ 0) :
    serveWith fixed cfg s (f :: rest) = ⟨s', [r], 1, .closed⟩ := by
  rw [serveWith, h]
  exact if_neg h0

/-- serving `fs ++ gs` = serving `fs`, and then, if the session is still open, `gs` from the state reached -/
theorem serveWith_append (fixed : Bool) (cfg : Cfg) (s : Srv) (fs gs : List Frame) :
    serveWith fixed cfg s (fs ++ gs) =
      let r1 := serveWith fixed cfg s fs
      match r1.end with
      | .open =>
        let r2 := serveWith fixed cfg r1.srv gs
        ⟨r2.srv, r1.replies ++ r2.replies, r1.consumed + r2.consumed, r2.end⟩
      | _ => r1 := by
  fun_induction serveWith fixed cfg s fs with
  | case2 s f fs s' r hpr h0 run ih =>   -- status 0: the loop goes on
    rw [List.cons_append, serveWith, hpr]
    simp only [h0, if_true, ih]
    cases hE : run.end <;> simp [run, hE] <;> omega
  | _ => simp [serveWith, *]

/-- same length, related position by position (order preserved) -/
inductive Matched {α β : Type} (R : α → β → Prop) : List α → List β → Prop
  | nil : Matched R [] []
  | cons {a : α} {b : β} {as : List α} {bs : List β} : R a b → Matched R as bs → Matched R (a :: as) (b :: bs)

theorem Matched.length_eq {α β : Type} {R : α → β → Prop} {as : List α} {bs : List β} (h : Matched R as bs) :
    as.length = bs.length := by
  induction h with
  | nil => rfl
  | cons _ _ ih => simp [ih]

theorem Matched.get {α β : Type} {R : α → β → Prop} {as : List α} {bs : List β} (h : Matched R as bs)
    (k : Nat) (a : α) (b : β) (ha : as[k]? = some a) (hb : bs[k]? = some b) : R a b := by
  induction h generalizing k with
  | nil => cases ha
  | cons hab _ ih =>
    cases k with
    | zero =>
      cases ha
      cases hb
      exact hab
    | succ k => exact ih k ha hb

/-- the frames that are to be answered: all but Unregister Session (within the size limit) -/
def expected (cfg : Cfg) (fs : List Frame) : List Frame := fs.filter fun f => !f.silent cfg

end Cpppo.Session
