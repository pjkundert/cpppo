import Cpppo.Proofs.Dotdict
import Cpppo.Proofs.DotdictText

/-!
Key iteration of C16.  `itemsP` is the model's `iteritems` (`itemsK`) with every key kept as its list of segments;
`itemsK_eq` ties the two: the model's keys are these paths joined by single dots.  About `itemsP`: a level's listing is
the concatenation of what its entries contribute, and so is that of a list of levels (`itemsP_eq_flatMap`,
`itemsPL_eq`); hence its one-level characterisation (`itemsP_iff`), "every listed key looks up to the listed value"
(`itemsP_get`) and "the listed keys are exactly the leaf paths" (`itemsP_leafAt`).  On the way: the decimal index that iteration writes, right-aligned,
reads back (`natDigits_spec`, `parseIdx_padIdx`, `parseSeg_idxSeg`), and a key written with single dots resolves to
its segments (`chain_joinDots`).
-/
namespace Cpppo.Dotdict

variable {P : Name → Bool}

/-- the segment `k[i]` as `iteritems` writes it -/
def idxSeg (k : Name) (width i : Nat) : Name := k ++ '[' :: (padIdx width i ++ [']'])

mutual
/-- `iteritems()` with every key kept as its list of segments -/
def itemsP : Kvs → List (List Name × Tree)
  | [] => []
  | (k, .node (x :: sub)) :: r =>
    (itemsP (x :: sub)).map (fun (p, v) => (k :: p, v)) ++ itemsP r
  | (k, .list (x :: xs)) :: r =>
    (if allNodes (x :: xs) then itemsPL k (natStr xs.length).length 0 (x :: xs)
     else [([k], .list (x :: xs))]) ++ itemsP r
  | (k, v) :: r => ([k], v) :: itemsP r
def itemsPL (k : Name) (width : Nat) : Nat → List Tree → List (List Name × Tree)
  | _, [] => []
  | i, .node sub :: r =>
    (itemsP sub).map (fun (p, v) => (idxSeg k width i :: p, v)) ++ itemsPL k width (i + 1) r
  | i, _ :: r => itemsPL k width (i + 1) r
end

/-- segments joined by single dots -/
def dotted : List Name → List (Name × Nat)
  | [] => []
  | [s] => [(s, 0)]
  | s :: r => (s, 1) :: dotted r

def joinDots (p : List Name) : Name := renderComps (dotted p)

theorem joinDots_cons (s : Name) (p : List Name) (hp : p ≠ []) :
    joinDots (s :: p) = s ++ '.' :: joinDots p := by
  obtain ⟨a, r, rfl⟩ := List.exists_cons_of_ne_nil hp
  simp [joinDots, dotted, renderComps, dots]

theorem joinDots_single (s : Name) : joinDots [s] = s := by
  simp [joinDots, dotted, renderComps, dots]

theorem isIdent_chars {k : Name} (h : isIdent k = true) :
    k ≠ [] ∧ '.' ∉ k ∧ '[' ∉ k ∧ ']' ∉ k := by
  cases k with
  | nil => simp [isIdent] at h
  | cons c s =>
    simp only [isIdent, Bool.and_eq_true] at h
    have hall : (c :: s).all isIdentChar = true := by simp [isIdentChar, h.1, h.2]
    exact ⟨by simp, not_mem_of_all hall (by decide), not_mem_of_all hall (by decide),
      not_mem_of_all hall (by decide)⟩

theorem digit_char_facts : ∀ d < 10,
    isDigit (Char.ofNat (48 + d)) = true ∧ (Char.ofNat (48 + d)).toNat - 48 = d := by decide

theorem digitsVal_append : ∀ (a b : Name) (acc : Nat), digitsVal (a ++ b) acc = digitsVal b (digitsVal a acc)
  | [], _, _ => rfl
  | c :: a, b, acc => by simp only [List.cons_append, digitsVal]; exact digitsVal_append a b _

theorem natDigits_spec (fuel n : Nat) (h : n < fuel) :
    (natDigits fuel n).all isDigit = true ∧ natDigits fuel n ≠ [] ∧ digitsVal (natDigits fuel n) 0 = n ∧
    (∀ c r, natDigits fuel n = c :: r → c ≠ '0' ∨ r = []) := by
  fun_induction natDigits fuel n
  · omega
  · rename_i fuel n hn
    have hf := digit_char_facts n hn
    exact ⟨by simp [hf.1], by simp, by simp [digitsVal, hf.2], fun c r e => .inr (List.cons.inj e).2.symm⟩
  · rename_i fuel n hn ih
    obtain ⟨h1, h2, h3, h4⟩ := ih (by omega)
    have hd := digit_char_facts (n % 10) (Nat.mod_lt _ (by omega))
    refine ⟨by simp [List.all_append, h1, hd.1], by simp, ?_, ?_⟩
    · rw [digitsVal_append, h3]
      simp only [digitsVal, hd.2]
      omega
    · intro c r e
      obtain ⟨c', r', hq⟩ := List.exists_cons_of_ne_nil h2
      rw [hq] at e h3
      cases e
      -- a leading zero of `n / 10` would be its only digit, but `n / 10 ≥ 1`
      refine .inl fun hz => ?_
      rcases h4 c r' hq with hc | rfl
      · exact hc hz
      · subst hz
        simp [digitsVal] at h3
        omega

theorem parseInt_natStr (n : Nat) : parseInt (natStr n) = some (n : Int) := by
  obtain ⟨h1, h2, h3, h4⟩ := natDigits_spec (n + 1) n (by omega)
  obtain ⟨c, r, hq⟩ := List.exists_cons_of_ne_nil h2
  rw [natStr, hq]
  rw [hq] at h1 h3
  have hc : c ≠ '-' := fun e => not_mem_of_all h1 (c := '-') (by decide) (by simp [e])
  -- no sign is stripped; the text is digits without a leading zero, so it is accepted with the value `n`
  simp [parseInt, hc, h1, h4 c r hq, h3]

theorem parseIdx_padIdx (w n : Nat) : parseIdx (padIdx w n) = some (n : Int) := by
  obtain ⟨h1, h2, _, _⟩ := natDigits_spec (n + 1) n (by omega)
  -- the padding is dropped, and the first digit stops the dropping
  have : (padIdx w n).dropWhile (· = ' ') = natStr n := by
    obtain ⟨c, r, hq⟩ := List.exists_cons_of_ne_nil h2
    have hc : c ≠ ' ' := fun e => not_mem_of_all h1 (c := ' ') (by decide) (by simp [hq, e])
    simp only [padIdx, natStr, hq]
    rw [List.dropWhile_append_of_pos (by simp), List.dropWhile_cons_of_neg (by simpa using hc)]
  rw [parseIdx, this]
  exact parseInt_natStr n

/-- a padded index consists of spaces and digits -/
theorem padIdx_chars (w n : Nat) {c : Char} (hs : c ≠ ' ') (hd : isDigit c = false) : c ∉ padIdx w n := by
  obtain ⟨h1, _⟩ := natDigits_spec (n + 1) n (by omega)
  simp only [padIdx, List.mem_append, List.mem_replicate, not_or]
  exact ⟨fun h => hs h.2, not_mem_of_all h1 hd⟩

theorem beforeBracket_append (k x : Name) (hk : '[' ∉ k) : beforeBracket (k ++ '[' :: x) = k :=
  (span_ne '[' x k hk).1

theorem fromBracket_append (k x : Name) (hk : '[' ∉ k) : fromBracket (k ++ '[' :: x) = '[' :: x :=
  (span_ne '[' x k hk).2

theorem parseSeg_idxSeg (k : Name) (w i : Nat) (hk : isIdent k = true) :
    parseSeg (idxSeg k w i) = some (k, [(i : Int)]) := by
  have hb := (isIdent_chars hk).2.2.1
  unfold parseSeg idxSeg
  rw [beforeBracket_append k _ hb, fromBracket_append k _ hb]
  simp only [hk, true_and, ne_eq, reduceCtorEq, not_false_eq_true, if_true, List.length_cons,
    parseGroups_single _ _ _ (parseIdx_padIdx w i)]
  rfl

theorem listGet_drop : ∀ (xs : List Tree) (i j : Nat), listGet (xs.drop i) j = listGet xs (i + j) :=
  fun xs i j => by simp only [listGet_eq, List.getElem?_drop]

theorem normIndex_nat (n j : Nat) (h : j < n) : normIndex n (j : Int) = some j := by
  simp [normIndex, show ¬ ((j : Int) < 0) by omega, show (j : Int) < n by omega]

theorem itemsPL_eq (k : Name) (w : Nat) : ∀ (xs : List Tree) (i : Nat), itemsPL k w i xs =
    (xs.zipIdx i).flatMap fun e => match e.1 with
      | .node sub => (itemsP sub).map fun (p, v) => (idxSeg k w e.2 :: p, v)
      | _ => []
  | [], i => by simp [itemsPL]
  | x :: r, i => by
    rw [List.zipIdx_cons, List.flatMap_cons, ← itemsPL_eq k w r (i + 1)]
    cases x <;> simp only [itemsPL, List.nil_append]

/-- the listing of a list of levels numbered from `0`, as `itemsP` calls it -/
theorem itemsPL_iff (k : Name) (w : Nat) (xs : List Tree) (p : List Name) (v : Tree) :
    (p, v) ∈ itemsPL k w 0 xs ↔
      ∃ j sub p', p = idxSeg k w j :: p' ∧ listGet xs j = some (.node sub) ∧ (p', v) ∈ itemsP sub := by
  simp only [itemsPL_eq, List.mem_flatMap, Prod.exists, List.mem_zipIdx_iff_getElem?, ← listGet_eq]
  constructor
  · rintro ⟨x, j, hg, hm⟩
    cases x <;> simp only [List.not_mem_nil, List.mem_map, Prod.mk.injEq, Prod.exists] at hm
    obtain ⟨p', _, hm, rfl, rfl⟩ := hm
    exact ⟨j, _, p', rfl, hg, hm⟩
  · rintro ⟨j, sub, p', rfl, hg, hm⟩
    exact ⟨.node sub, j, hg, List.mem_map.mpr ⟨(p', v), hm, rfl⟩⟩

/-- a value that iteration yields as it is: not a non-empty level, not a non-empty list of levels -/
def IsLeafVal : Tree → Prop
  | .node (_ :: _) => False
  | .list (x :: xs) => allNodes (x :: xs) = false
  | _ => True

/-- width of the index field `iteritems` uses for a list: that of the largest index, `xs.length - 1`
(`itemsP` computes it from the tail of a non-empty list, which has that length) -/
def idxWidth (xs : List Tree) : Nat := (natStr (xs.length - 1)).length

/-- what the entry `k ↦ val` of a level contributes to the listing: `val` itself when it is a leaf
value, else the listing of the sub-level / of the elements of the list of levels, prefixed -/
inductive EntryAt (k : Name) : Tree → List Name → Tree → Prop
  | leaf {val : Tree} : IsLeafVal val → EntryAt k val [k] val
  | down {sub : Kvs} {p : List Name} {v : Tree} : sub ≠ [] → (p, v) ∈ itemsP sub →
      EntryAt k (.node sub) (k :: p) v
  | elem {xs : List Tree} {j : Nat} {sub : Kvs} {p : List Name} {v : Tree} :
      xs ≠ [] → allNodes xs = true → listGet xs j = some (.node sub) → (p, v) ∈ itemsP sub →
      EntryAt k (.list xs) (idxSeg k (idxWidth xs) j :: p) v

/-- `(p, v)` is what some entry of the level `kvs` contributes to the listing -/
def Entry (kvs : Kvs) (p : List Name) (v : Tree) : Prop :=
  ∃ k val, lookupK k kvs = some val ∧ EntryAt k val p v

/-- the listing of a level is the concatenation of what each entry contributes -/
theorem itemsP_eq_flatMap (kvs : Kvs) : itemsP kvs = kvs.flatMap fun e => itemsP [e] := by
  induction kvs with
  | nil => simp [itemsP]
  | cons hd r ih =>
    obtain ⟨k, val⟩ := hd
    rw [List.flatMap_cons, ← ih]
    cases val with
    | leaf _ => simp [itemsP]
    | node sub => cases sub <;> simp [itemsP]
    | list xs => cases xs <;> simp [itemsP]

theorem entry_iff (k : Name) (val : Tree) (p : List Name) (v : Tree) :
    (p, v) ∈ itemsP [(k, val)] ↔ EntryAt k val p v := by
  have leafcase : IsLeafVal val → itemsP [(k, val)] = [([k], val)] →
      ((p, v) ∈ itemsP [(k, val)] ↔ EntryAt k val p v) := by
    intro hv hh
    rw [hh]
    simp only [List.mem_singleton, Prod.mk.injEq]
    constructor
    · rintro ⟨rfl, rfl⟩; exact EntryAt.leaf hv
    · intro h
      cases h with
      | leaf _ => exact ⟨rfl, rfl⟩
      | @down sub _ _ hs _ => cases sub <;> simp [IsLeafVal] at hv hs
      | @elem xs _ _ _ _ hx ha _ _ => cases xs <;> simp [IsLeafVal, ha] at hv hx
  cases val with
  | leaf n => exact leafcase trivial (by simp [itemsP])
  | node sub =>
    cases sub with
    | nil => exact leafcase trivial (by simp [itemsP])
    | cons x sub' =>
      simp only [itemsP, List.append_nil, List.mem_map, Prod.mk.injEq, Prod.exists]
      constructor
      · rintro ⟨p', v', hm, rfl, rfl⟩
        exact EntryAt.down (by simp) hm
      · intro h
        cases h with
        | leaf hv => simp [IsLeafVal] at hv
        | down _ hm => exact ⟨_, _, hm, rfl, rfl⟩
  | list xs =>
    cases xs with
    | nil => exact leafcase trivial (by simp [itemsP])
    | cons x xs' =>
      by_cases ha : allNodes (x :: xs') = true
      · have hw : (natStr xs'.length).length = idxWidth (x :: xs') := by simp [idxWidth]
        simp only [itemsP, List.append_nil, ha, if_true, hw, itemsPL_iff]
        constructor
        · rintro ⟨j, sub, p', rfl, hg, hm⟩
          exact EntryAt.elem (by simp) ha hg hm
        · intro h
          cases h with
          | leaf hv => simp [IsLeafVal, ha] at hv
          | elem _ _ hg hm => exact ⟨_, _, _, rfl, hg, hm⟩
      · have ha' : allNodes (x :: xs') = false := by simpa using ha
        exact leafcase (by simp [IsLeafVal, ha']) (by simp [itemsP, ha'])

theorem itemsP_ne (kvs : Kvs) (p : List Name) (v : Tree) (h : (p, v) ∈ itemsP kvs) : p ≠ [] := by
  rw [itemsP_eq_flatMap, List.mem_flatMap] at h
  obtain ⟨⟨k, val⟩, _, h⟩ := h
  cases (entry_iff k val p v).mp h <;> simp

theorem map_join_cons (k : Name) (l : List (List Name × Tree)) (hl : ∀ p v, (p, v) ∈ l → p ≠ []) :
    (l.map fun (p, v) => (k :: p, v)).map (fun (p, v) => (joinDots p, v))
      = (l.map fun (p, v) => (joinDots p, v)).map fun (sk, sv) => (k ++ '.' :: sk, sv) := by
  simp only [List.map_map]
  exact List.map_congr_left fun ⟨p, v⟩ h => by simp [joinDots_cons k p (hl p v h)]

theorem itemsK_itemsL_eq :
    (∀ kvs, itemsK kvs = (itemsP kvs).map fun (p, v) => (joinDots p, v)) ∧
    ∀ k w i xs, itemsL k w i xs = (itemsPL k w i xs).map fun (p, v) => (joinDots p, v) := by
  apply itemsK.mutual_induct
  -- `itemsK`: no entry; a non-empty level; a non-empty list; any other value
  · simp [itemsK, itemsP]
  · intro k x sub r ih1 ih2
    simp only [itemsK, itemsP, List.map_append, ih1, ih2]
    rw [map_join_cons k _ (itemsP_ne (x :: sub))]
  · intro k x xs r ih1 ih2
    simp only [itemsK, itemsP, List.map_append, ih2]
    congr 1
    split
    · exact ih1
    · simp [joinDots_single]
  · intro k v r h1 h2 ih
    rw [itemsK.eq_4 _ _ _ h1 h2, itemsP.eq_4 _ _ _ h1 h2, ih]
    simp [joinDots_single]
  -- `itemsL`: no element; a level; any other element
  · simp [itemsL, itemsPL]
  · intro k w i sub r ih1 ih2
    simp only [itemsL, itemsPL, List.map_append, ih1, ih2]
    congr 1
    rw [map_join_cons (idxSeg k w i) (itemsP sub) (itemsP_ne sub)]
    simp [idxSeg]
  · intro k w i head r hh ih
    rw [itemsL.eq_3 _ _ _ _ _ hh, itemsPL.eq_3 _ _ _ _ _ hh, ih]

theorem itemsK_eq (kvs : Kvs) : itemsK kvs = (itemsP kvs).map fun (p, v) => (joinDots p, v) :=
  itemsK_itemsL_eq.1 kvs

theorem itemsL_eq (k : Name) (w : Nat) : ∀ (i : Nat) (xs : List Tree),
    itemsL k w i xs = (itemsPL k w i xs).map fun (p, v) => (joinDots p, v) :=
  itemsK_itemsL_eq.2 k w


/-- **one level of key iteration**: a path is listed exactly when its first segment is an entry of
the level that is either a leaf value (then the path ends) or a non-empty level / list of levels
whose own listing has the rest -/
theorem itemsP_iff (kvs : Kvs) (p : List Name) (v : Tree) (hw : wfK P kvs = true) :
    (p, v) ∈ itemsP kvs ↔ Entry kvs p v := by
  rw [itemsP_eq_flatMap]
  simp only [List.mem_flatMap, entry_iff, Entry, lookupK_iff_mem hw, Prod.exists]


theorem itemsP_head : ∀ (kvs : Kvs) (p : List Name) (v : Tree), wfK isIdent kvs = true →
    (p, v) ∈ itemsP kvs → ∃ m rest, p = m :: rest ∧ beforeBracket m ∈ keysK kvs := by
  intro kvs p v hw h
  obtain ⟨k, val, hl, he⟩ := (itemsP_iff kvs p v hw).mp h
  have hb := (isIdent_chars (wfK_lookup hw hl).1).2.2.1
  have hk := mem_keysK_of_lookupK hl
  cases he with
  | leaf _ | down _ _ => exact ⟨k, _, rfl, by rwa [beforeBracket_plain k hb]⟩
  | elem _ _ _ _ => exact ⟨_, _, rfl, by rwa [idxSeg, beforeBracket_append k _ hb]⟩


theorem textSeg_ident {k : Name} (h : isIdent k = true) : TextSeg k := by
  obtain ⟨h1, h2, h3, h4⟩ := isIdent_chars h
  exact ⟨h1, h2, by simp [balanced, opens, closes, List.count_eq_zero.mpr h3, List.count_eq_zero.mpr h4]⟩

theorem textSeg_idxSeg {k : Name} (h : isIdent k = true) (w j : Nat) : TextSeg (idxSeg k w j) := by
  obtain ⟨h1, h2, h3, h4⟩ := isIdent_chars h
  have f3 : '[' ∉ padIdx w j := padIdx_chars w j (by decide) (by decide)
  have f4 : ']' ∉ padIdx w j := padIdx_chars w j (by decide) (by decide)
  have f5 : '.' ∉ padIdx w j := padIdx_chars w j (by decide) (by decide)
  refine ⟨by simp [idxSeg], ?_, ?_⟩
  · simp [idxSeg, h2, f5]
  · simp [balanced, opens, closes, idxSeg, List.count_append,
      List.count_eq_zero.mpr h3, List.count_eq_zero.mpr h4,
      List.count_eq_zero.mpr f3, List.count_eq_zero.mpr f4]

theorem itemsP_get : ∀ (p : List Name) (kvs : Kvs) (v : Tree), wfK isIdent kvs = true →
    (p, v) ∈ itemsP kvs → getK kvs p none = .ok v ∧ ∀ m ∈ p, TextSeg m
  | [], kvs, v, _, h => absurd rfl (itemsP_ne kvs [] v h)
  | m :: p', kvs, v, hw, h => by
    obtain ⟨k, val, hl, he⟩ := (itemsP_iff kvs (m :: p') v hw).mp h
    obtain ⟨hk, hwv⟩ := wfK_lookup hw hl
    have hkb := (isIdent_chars hk).2.2.1
    cases he with
    | leaf hv =>
      refine ⟨?_, List.forall_mem_cons.mpr ⟨textSeg_ident hk, by simp⟩⟩
      rw [getK]
      simp [segGet, hkb, hl]
    | @down sub _ _ hne hm =>
      have ih := itemsP_get p' sub v hwv hm
      have hp' := itemsP_ne sub p' v hm
      refine ⟨?_, List.forall_mem_cons.mpr ⟨textSeg_ident hk, ih.2⟩⟩
      rw [getK]
      simp [segGet, hkb, hl, hp', ih.1]
    | @elem xs j sub _ _ hne ha hg hm =>
      have hjl := listGet_lt _ _ _ hg
      have ih := itemsP_get p' sub v (wfL_listGet hwv hg) hm
      have hp' := itemsP_ne sub p' v hm
      refine ⟨?_, List.forall_mem_cons.mpr ⟨textSeg_idxSeg hk (idxWidth xs) j, ih.2⟩⟩
      rw [getK]
      have hbr : '[' ∈ idxSeg k (idxWidth xs) j := by simp [idxSeg]
      simp only [segGet, hbr, if_true, evalSeg, parseSeg_idxSeg k (idxWidth xs) j hk, hl, subscripts, subscript,
        normIndex_nat _ _ hjl, hg]
      simp [hp', ih.1]


theorem dotted_spec : ∀ (p : List Name), (∀ m ∈ p, TextSeg m) →
    WFC (dotted p) ∧ RedC (dotted p) ∧ segsOf (dotted p) = p
  | [], _ => by simp [dotted, WFC, RedC, segsOf]
  | [s], h => by
    have := h s (by simp)
    simp [dotted, WFC, RedC, segsOf, this]
  | s :: a :: r, h => by
    obtain ⟨h1, h2, h3⟩ := dotted_spec (a :: r) (List.forall_mem_cons.mp h).2
    have hd : dotted (s :: a :: r) = (s, 1) :: dotted (a :: r) := by simp [dotted]
    obtain ⟨⟨s2, d2⟩, t, hct⟩ : ∃ c t, dotted (a :: r) = c :: t := by cases r <;> simp [dotted]
    rw [hd]
    refine ⟨⟨h s (by simp), fun _ => Nat.le_refl 1, h1⟩, ⟨Nat.le_refl 1, h2⟩, ?_⟩
    rw [hct] at h3 ⊢
    simp only [segsOf]
    rw [h3]

theorem chain_joinDots (fixed : Bool) (p : List Name) (hp : p ≠ []) (h : ∀ m ∈ p, TextSeg m) :
    chain fixed (joinDots p) = ⟨p, none⟩ := by
  obtain ⟨h1, h2, h3⟩ := dotted_spec p h
  have hne : dotted p ≠ [] := fun e => hp (by rw [← h3, e]; rfl)
  rw [chain, joinDots, chainF_reduced fixed (dotted p) _ h1 h2 hne
    (Nat.succ_le_succ (renderComps_length_ge (dotted p) h1)), h3]

/-- the leaf paths of a level: through non-empty levels by name, through non-empty lists of levels
by `name[i]`, down to a value that is neither -/
inductive LeafAt : Kvs → List Name → Tree → Prop
  | leaf {kvs : Kvs} {k : Name} {v : Tree} : lookupK k kvs = some v → IsLeafVal v → LeafAt kvs [k] v
  | down {kvs : Kvs} {k : Name} {sub : Kvs} {p : List Name} {v : Tree} :
      lookupK k kvs = some (.node sub) → sub ≠ [] → LeafAt sub p v → LeafAt kvs (k :: p) v
  | elem {kvs : Kvs} {k : Name} {xs : List Tree} {j : Nat} {sub : Kvs} {p : List Name} {v : Tree} :
      lookupK k kvs = some (.list xs) → xs ≠ [] → allNodes xs = true → listGet xs j = some (.node sub) →
      LeafAt sub p v → LeafAt kvs (idxSeg k (idxWidth xs) j :: p) v

theorem itemsP_leafAt_mp : ∀ (p : List Name) (kvs : Kvs) (v : Tree), wfK P kvs = true →
    (p, v) ∈ itemsP kvs → LeafAt kvs p v
  | [], kvs, v, _, h => absurd rfl (itemsP_ne kvs [] v h)
  | m :: p', kvs, v, hw, h => by
    obtain ⟨k, val, hl, he⟩ := (itemsP_iff kvs (m :: p') v hw).mp h
    obtain ⟨_, hwv⟩ := wfK_lookup hw hl
    cases he with
    | leaf hv => exact LeafAt.leaf hl hv
    | @down sub _ _ hne hm =>
      exact LeafAt.down hl hne (itemsP_leafAt_mp p' sub v hwv hm)
    | @elem xs j sub _ _ hne ha hg hm =>
      exact LeafAt.elem hl hne ha hg (itemsP_leafAt_mp p' sub v (wfL_listGet hwv hg) hm)

theorem itemsP_leafAt_mpr {kvs : Kvs} {p : List Name} {v : Tree} (h : LeafAt kvs p v) :
    wfK P kvs = true → (p, v) ∈ itemsP kvs := by
  induction h with
  | @leaf kvs k v hl hv => exact fun hw => (itemsP_iff kvs _ _ hw).mpr ⟨k, v, hl, .leaf hv⟩
  | @down kvs k sub p v hl hne _ ih =>
    exact fun hw => (itemsP_iff kvs _ _ hw).mpr ⟨k, _, hl, .down hne (ih (wfK_lookup hw hl).2)⟩
  | @elem kvs k xs j sub p v hl hne ha hg _ ih =>
    exact fun hw => (itemsP_iff kvs _ _ hw).mpr
      ⟨k, _, hl, .elem hne ha hg (ih (wfL_listGet (wfK_lookup hw hl).2 hg))⟩

theorem itemsP_leafAt (kvs : Kvs) (p : List Name) (v : Tree) (hw : wfK P kvs = true) :
    (p, v) ∈ itemsP kvs ↔ LeafAt kvs p v :=
  ⟨itemsP_leafAt_mp p kvs v hw, fun h => itemsP_leafAt_mpr h hw⟩

theorem leafAt_isLeaf {kvs : Kvs} {p : List Name} {v : Tree} (hl : LeafAt kvs p v) : IsLeafVal v := by
  induction hl <;> assumption

end Cpppo.Dotdict
