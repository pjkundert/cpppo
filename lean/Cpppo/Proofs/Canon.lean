import Cpppo.Model.Logix

/-! Canonical stored values: `conv` is idempotent and canonical values always encode (C05, C07). -/
namespace Cpppo

/-- 0 and 1 fit every integer format -/
theorem CipType.size_pos (t : CipType) : 0 < t.size := by cases t <;> decide

theorem packInt_small (s : Bool) (k : Nat) (hk : 1 ≤ k) (b : Bool) :
    ∃ x, Bytes.packInt s k (if b then 1 else 0) = some x := by
  have h1 : 1 < 2 ^ (8 * k - 1) := Nat.one_lt_two_pow (by omega)
  have h2 : 1 < 2 ^ (8 * k) := Nat.one_lt_two_pow (by omega)
  unfold Bytes.packInt
  generalize 2 ^ (8 * k - 1) = P at *
  generalize 2 ^ (8 * k) = Q at *
  cases s <;> cases b <;> simp only [↓reduceIte, Bool.false_eq_true]
  all_goals exact ⟨_, if_pos (by omega)⟩

theorem Val.encode_int (t : CipType) (hi : t.isInt = true) (i : Int) :
    Val.encode t (.int i) = Bytes.packInt t.signed t.size i := by
  cases t <;> simp [CipType.isInt] at hi <;> simp [Val.encode, CipType.isInt]

theorem Val.convInt_canon (t : CipType) (hi : t.isInt = true) (hk : 1 ≤ t.size) (v v' : Val)
    (h : Val.convInt t v = some v') : Val.convInt t v' = some v' ∧ ∃ bs, Val.encode t v' = some bs := by
  have key : ∀ i x, Bytes.packInt t.signed t.size i = some x →
      Val.convInt t (.int i) = some (.int i) ∧ ∃ bs, Val.encode t (.int i) = some bs := fun i x hx =>
    ⟨by simp [Val.convInt, hx], x, by rw [Val.encode_int t hi, hx]⟩
  unfold Val.convInt at h
  cases v with
  | int i =>
    obtain ⟨x, hx, rfl⟩ := Option.map_eq_some_iff.mp h
    exact key i x hx
  | bool b =>
    cases h
    obtain ⟨x, hx⟩ := packInt_small t.signed t.size hk b
    exact key _ x hx
  | _ => cases h

theorem Val.conv_canon (t : CipType) (v v' : Val) (h : Val.conv t v = some v') :
    Val.conv t v' = some v' ∧ ∃ bs, Val.encode t v' = some bs := by
  revert h
  -- rows of `Val.conv` in the order of its definition: BOOL 1-4, REAL 5-8, LREAL 9-13, SSTRING 14-16,
  -- STRING 17-19, the integer types 20
  fun_cases Val.conv t v
  -- the eight integer types
  case case20 => cases t <;> first | contradiction | exact Val.convInt_canon _ rfl (by decide) v v'
  -- an integer or BOOL into REAL / LREAL
  case case5 | case6 | case9 | case10 =>
    intro h; obtain ⟨_, -, rfl⟩ := Option.map_eq_some_iff.mp h; exact ⟨rfl, _, rfl⟩
  -- a string short enough for its length prefix
  case case14 | case17 => rintro ⟨⟩; simp [Val.conv, Val.encode, *]
  -- a value that already has the stored shape, or a byte into BOOL
  case case1 | case2 | case7 | case11 | case12 => rintro ⟨⟩; exact ⟨rfl, _, rfl⟩
  -- the remaining rows refuse
  all_goals nofun

end Cpppo
