import Cpppo.Model.History

/-!
`misc.natural` as a sort key: lexicographic comparison of tuples of strings is a strict total order on
keys, hence "not greater" is a total preorder on names and the insertion sort of the model returns a
sorted permutation (property C18: the order in which `reader.open` visits the files).
-/
namespace Cpppo.History

/-- a strict total order given as a Boolean `<` -/
structure StrictTotal {α : Type} (lt : α → α → Bool) : Prop where
  irrefl : ∀ a, lt a a = false
  trans : ∀ a b c, lt a b = true → lt b c = true → lt a c = true
  tri : ∀ a b, lt a b = false → lt b a = false → a = b

theorem StrictTotal.asymm {α : Type} {lt : α → α → Bool} (h : StrictTotal lt) {a b : α}
    (hab : lt a b = true) : lt b a = false := by
  cases hba : lt b a with
  | false => rfl
  | true => have := h.trans a b a hab hba; rw [h.irrefl] at this; cases this

theorem natLt_strictTotal : StrictTotal (fun a b : Nat => decide (a < b)) :=
  ⟨fun a => decide_eq_false (Nat.lt_irrefl a),
   fun _ _ _ h1 h2 => decide_eq_true (Nat.lt_trans (of_decide_eq_true h1) (of_decide_eq_true h2)),
   fun _ _ h1 h2 => Nat.le_antisymm (Nat.le_of_not_lt (of_decide_eq_false h2))
     (Nat.le_of_not_lt (of_decide_eq_false h1))⟩

theorem lexLt_cons {α : Type} (lt : α → α → Bool) (x y : α) (xs ys : List α) :
    lexLt lt (x :: xs) (y :: ys) = (lt x y || (!lt y x && lexLt lt xs ys)) := rfl

/-- with a strict total order on the elements, the first elements decide unless they are equal -/
theorem lexLt_cons_iff {α : Type} {lt : α → α → Bool} (h : StrictTotal lt) (x y : α) (xs ys : List α) :
    lexLt lt (x :: xs) (y :: ys) = true ↔ lt x y = true ∨ (x = y ∧ lexLt lt xs ys = true) := by
  rw [lexLt_cons]
  simp only [Bool.or_eq_true, Bool.and_eq_true, Bool.not_eq_true']
  constructor
  · rintro (h1 | ⟨h1, h2⟩)
    · exact .inl h1
    · cases hx : lt x y with
      | true => exact .inl rfl
      | false => exact .inr ⟨h.tri x y hx h1, h2⟩
  · rintro (h1 | ⟨rfl, h2⟩)
    · exact .inl h1
    · exact .inr ⟨h.irrefl x, h2⟩

theorem lexLt_strictTotal {α : Type} {lt : α → α → Bool} (h : StrictTotal lt) : StrictTotal (lexLt lt) := by
  refine ⟨?_, ?_, ?_⟩
  · intro a
    induction a with
    | nil => rfl
    | cons x xs ih => simp [lexLt_cons, h.irrefl, ih]
  · intro a b c h1 h2
    -- the branches of `lexLt`: 1 both empty, 2 only the left empty, 3 only the right empty, 4 two heads
    fun_induction lexLt lt a b generalizing c with
    | case1 => cases h1
    | case2 =>
      cases c with
      | nil => cases h2
      | cons => rfl
    | case3 => cases h1
    | case4 x xs y ys ih =>
      cases c with
      | nil => cases h2
      | cons z zs =>
        rw [← lexLt_cons, lexLt_cons_iff h] at h1
        rw [lexLt_cons_iff h] at h2 ⊢
        rcases h1 with h1 | ⟨rfl, h1⟩
        · rcases h2 with h2 | ⟨rfl, h2⟩
          · exact .inl (h.trans x y z h1 h2)
          · exact .inl h1
        · rcases h2 with h2 | ⟨rfl, h2⟩
          · exact .inl h2
          · exact .inr ⟨rfl, ih zs h1 h2⟩
  · intro a b h1 h2
    fun_induction lexLt lt a b with
    | case1 => rfl
    | case2 => cases h1
    | case3 => cases h2
    | case4 x xs y ys ih =>
      rw [lexLt_cons] at h2
      simp only [Bool.or_eq_false_iff, Bool.and_eq_false_iff, Bool.not_eq_false'] at h1 h2
      obtain rfl := h.tri x y h1.1 h2.1
      simp only [h.irrefl, Bool.false_eq_true, false_or, true_and] at h1 h2
      rw [ih h1 h2]

theorem strLt_strictTotal : StrictTotal strLt := lexLt_strictTotal natLt_strictTotal
theorem keyLt_strictTotal : StrictTotal keyLt := lexLt_strictTotal strLt_strictTotal

/-- `a` does not sort after `b` -/
def naturalLe (a b : List Nat) : Bool := !naturalLt b a

theorem insertBy_perm {α : Type} (lt : α → α → Bool) (x : α) (l : List α) :
    (insertBy lt x l).Perm (x :: l) := by
  -- the branches of `insertBy`: 1 empty list, 2 the head `y` stays in front of `x`, 3 `x` goes in front
  fun_induction insertBy lt x l with
  | case1 => exact List.Perm.refl _
  | case2 y ys _ ih => exact (List.Perm.cons y ih).trans (List.Perm.swap x y ys)
  | case3 => exact List.Perm.refl _

theorem sortByLt_perm {α : Type} (lt : α → α → Bool) (l : List α) : (sortByLt lt l).Perm l := by
  induction l with
  | nil => exact List.Perm.refl _
  | cons x xs ih => exact (insertBy_perm lt x _).trans (List.Perm.cons x ih)

/-- a total and transitive relation, given as a Boolean `≤` -/
structure TotalPre {α : Type} (le : α → α → Bool) : Prop where
  total : ∀ a b, le a b = true ∨ le b a = true
  trans : ∀ a b c, le a b = true → le b c = true → le a c = true

theorem insertBy_sorted {α : Type} (lt : α → α → Bool) (hp : TotalPre (fun a b => !lt b a)) (x : α)
    (l : List α) (hl : l.Pairwise (fun a b => lt b a = false)) :
    (insertBy lt x l).Pairwise (fun a b => lt b a = false) := by
  fun_induction insertBy lt x l with
  | case1 => simp
  | case2 y ys hyx ih =>
    have hy := List.pairwise_cons.mp hl
    refine List.pairwise_cons.mpr ⟨?_, ih hy.2⟩
    intro z hz
    rcases List.mem_cons.mp ((insertBy_perm lt x ys).mem_iff.mp hz) with rfl | hz'
    · -- `y` is before `z`, so `z` is not before `y`
      rcases hp.total y z with h | h
      · simpa using h
      · simp [hyx] at h
    · exact hy.1 z hz'
  | case3 y ys hyx =>
    have hy := List.pairwise_cons.mp hl
    have hyx' : lt y x = false := by simpa using hyx
    exact List.pairwise_cons.mpr ⟨List.forall_mem_cons.mpr ⟨hyx', fun z hz => by
      simpa using hp.trans x y z (by simp [hyx']) (by simp [hy.1 z hz])⟩, hl⟩

theorem sortByLt_sorted {α : Type} (lt : α → α → Bool) (hp : TotalPre (fun a b => !lt b a)) (l : List α) :
    (sortByLt lt l).Pairwise (fun a b => lt b a = false) := by
  induction l with
  | nil => simp [sortByLt]
  | cons x xs ih => exact insertBy_sorted lt hp x _ ih

/-- the negation of a strict total order pulled back along a key is a total preorder -/
theorem totalPre_of_key {α β : Type} {lt : β → β → Bool} (h : StrictTotal lt) (key : α → β) :
    TotalPre (fun a b : α => !lt (key b) (key a)) := by
  refine ⟨?_, ?_⟩
  · intro a b
    cases hab : lt (key b) (key a) with
    | false => left; rfl
    | true => right; simp [h.asymm hab]
  · intro a b c h1 h2
    simp only [Bool.not_eq_true'] at h1 h2 ⊢
    cases hca : lt (key c) (key a) with
    | false => rfl
    | true =>
      -- key c < key a, ¬ key b < key a, ¬ key c < key b
      cases hab : lt (key a) (key b) with
      | true => have := h.trans _ _ _ hca hab; rw [h2] at this; cases this
      | false =>
        rw [h.tri _ _ hab h1, h2] at hca; cases hca

theorem natural_totalPre : TotalPre naturalLe := totalPre_of_key keyLt_strictTotal naturalKey

end Cpppo.History
