import Cpppo.Model.Bytes

/-! Little-endian fields and `struct.pack` / `struct.unpack` of integers (`Cpppo.Bytes`): the facts every wire-level
proof (C01 codec, C07 offsets, C14 reference codec) uses. -/
namespace Cpppo.Bytes

theorem le_length (k n : Nat) : (le k n).length = k := by
  fun_induction le k n <;> simp [*]

theorem leNat_le (k n : Nat) (h : n < 256 ^ k) : leNat (le k n) = n := by
  induction k generalizing n with
  | zero =>
    obtain rfl : n = 0 := by simpa using h
    rfl
  | succ k ih =>
    rw [le, leNat, ih _ (Nat.div_lt_of_lt_mul (by rwa [Nat.pow_succ'] at h))]
    exact Nat.mod_add_div n 256

theorem pow256 (k : Nat) : 256 ^ k = 2 ^ (8 * k) := by
  rw [Nat.pow_mul]

/-- two's complement: `toSigned` inverts `ofSigned` on the signed range of `8k` bits -/
theorem toSigned_ofSigned (k : Nat) (hk : 1 ≤ k) (i : Int) (h1 : -(2 ^ (8 * k - 1) : Nat) ≤ i)
    (h2 : i < (2 ^ (8 * k - 1) : Nat)) :
    ofSigned k i < 2 ^ (8 * k) ∧ toSigned k (ofSigned k i) = i := by
  unfold toSigned ofSigned
  rw [show 2 ^ (8 * k) = 2 * 2 ^ (8 * k - 1) by
    rw [← Nat.pow_succ', Nat.succ_eq_add_one, Nat.sub_add_cancel (by omega)]]
  generalize 2 ^ (8 * k - 1) = P at h1 h2 ⊢
  by_cases hi : 0 ≤ i
  · have hu : i.toNat < P := by omega
    rw [if_pos hi, if_pos hu, Int.toNat_of_nonneg hi]
    exact ⟨Nat.lt_of_lt_of_le hu (Nat.le_mul_of_pos_left P (by decide)), rfl⟩
  · -- below zero the representative is `i + 2P`, at least `P`
    rw [if_neg hi, if_neg (by omega)]
    omega

theorem packInt_length (signed : Bool) (k : Nat) (i : Int) (bs : Bytes) (h : packInt signed k i = some bs) :
    bs.length = k := by
  revert h
  fun_cases packInt signed k i <;> rintro ⟨⟩ <;> exact le_length _ _

/-- `struct.unpack` inverts `struct.pack` for every integer format -/
theorem unpack_pack (signed : Bool) (k : Nat) (hk : 1 ≤ k) (i : Int) (bs : Bytes)
    (h : packInt signed k i = some bs) : unpackInt signed k bs = i := by
  unfold packInt at h
  cases signed <;>
    simp only [Bool.false_eq_true, ↓reduceIte, Option.ite_none_right_eq_some, Option.some.injEq] at h <;>
    obtain ⟨hr, rfl⟩ := h
  · have hlt : i.toNat < 256 ^ k := by rw [pow256]; omega
    simp only [unpackInt, Bool.false_eq_true, ↓reduceIte, leNat_le k _ hlt]
    omega
  · obtain ⟨hlt, hts⟩ := toSigned_ofSigned k hk i hr.1 hr.2
    simp only [unpackInt, ↓reduceIte, leNat_le k _ (pow256 k ▸ hlt), hts]

end Cpppo.Bytes
