import Cpppo.Model.Fields
import Cpppo.Proofs.Bytes
/-! The fixed-width little-endian fields: the readers `take` / `u` / `words` on what `Bytes.le` writes, that it writes
bytes, and fields padded to even length. -/
namespace Cpppo.Fields
open Cpppo

theorem le_wf (k n : Nat) : (Bytes.le k n).wf = true := by
  induction k generalizing n with
  | zero => rfl
  | succ k ih =>
    have := ih (n / 256)
    simp only [Bytes.wf] at this ⊢
    simp only [Bytes.le, List.all_cons, this, Bool.and_true, decide_eq_true_eq]
    omega

theorem take_append (k : Nat) (a rest : Bytes) (h : a.length = k) : take k (a ++ rest) = some (a, rest) := by
  subst h; simp [take]

theorem take_self (a : Bytes) : take a.length a = some (a, []) := by
  simpa using take_append a.length a [] rfl

theorem u_append (k : Nat) (a rest : Bytes) (h : a.length = k) : u k (a ++ rest) = some (Bytes.leNat a, rest) := by
  unfold u
  rw [take_append k a rest h]

theorem u_le (k n : Nat) (rest : Bytes) (h : n < 256 ^ k) : u k (Bytes.le k n ++ rest) = some (n, rest) := by
  rw [u_append k _ rest (Bytes.le_length k n), Bytes.leNat_le k n h]

theorem u_le_bind {β : Type} (k n : Nat) (rest : Bytes) (f : Nat × Bytes → Option β) (h : n < 256 ^ k) :
    (u k (Bytes.le k n ++ rest)).bind f = f (n, rest) := by
  rw [u_le k n rest h]; rfl

theorem u_le' (k n : Nat) (h : n < 256 ^ k) : u k (Bytes.le k n) = some (n, []) := by
  have := u_le k n [] h
  simpa using this

theorem u1_cons (b : Nat) (rest : Bytes) : u 1 (b :: rest) = some (b, rest) := by
  simp [u, take, Bytes.leNat]

theorem words_le (ws : List Nat) (rest : Bytes) (h : ∀ w ∈ ws, w < 65536) :
    words ws.length ((ws.map (Bytes.le 2)).flatten ++ rest) = some (ws, rest) := by
  induction ws with
  | nil => simp [words]
  | cons w ws ih => simp_all [words, u_le]

/-! A field padded to even length (symbolic segment, STRING, Unconnected Send): the reader takes `n` bytes and skips
`n % 2` more. -/

theorem pad_length (n : Nat) : (if n % 2 = 1 then [0] else [] : Bytes).length = n % 2 := by
  split <;> simp <;> omega

theorem padded_fits (s rest : Bytes) :
    ¬ (s ++ ((if s.length % 2 = 1 then [0] else []) ++ rest)).length < s.length + s.length % 2 := by
  simp only [List.length_append, pad_length]; omega

theorem drop_padded (s rest : Bytes) :
    (s ++ ((if s.length % 2 = 1 then [0] else []) ++ rest)).drop (s.length + s.length % 2) = rest := by
  simp [← List.drop_drop, pad_length]

end Cpppo.Fields
