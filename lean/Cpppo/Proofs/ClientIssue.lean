import Cpppo.Model.ClientIssue
/-! Lemmas about `issue` (property C12): partition, indices, homogeneous bundles, non-empty packets. -/
namespace Cpppo.Client

variable {α κ : Type} [DecidableEq κ]

/-- the items a packet list yields, in order -/
def flatItems (ps : List (Packet α)) : List (Nat × α) :=
  ps.flatMap fun p => p.members.map fun a => (p.index, a)

def flatMembers (ps : List (Packet α)) : List α := ps.flatMap Packet.members

theorem issueSingle_members (idx : Nat) (ops : List α) :
    flatMembers (issueSingle idx ops) = ops := by
  induction ops generalizing idx with
  | nil => rfl
  | cons a as ih =>
    simp only [issueSingle, flatMembers, List.flatMap_cons, List.singleton_append] at ih ⊢
    rw [ih]

theorem issueSingle_indices (idx : Nat) (ops : List α) :
    (issueSingle idx ops).map Packet.index = List.range' idx (issueSingle idx ops).length := by
  induction ops generalizing idx with
  | nil => rfl
  | cons a as ih =>
    simp only [issueSingle, List.map_cons, List.length_cons, List.range'_succ]
    rw [ih]

theorem issueSingle_shape (idx : Nat) (ops : List α) :
    ∀ p ∈ issueSingle idx ops, p.bundled = false ∧ ∃ a, p.members = [a] := by
  induction ops generalizing idx with
  | nil => intro p hp; cases hp
  | cons a as ih => exact List.forall_mem_cons.mpr ⟨⟨rfl, a, rfl⟩, ih _⟩

variable (est : α → Nat × Nat) (key : α → κ) (m rmin pmin : Nat)

theorem fits_nil (rs ps : Nat) (op : α) :
    fits est key m [] rs ps op = true := by
  simp [fits]

theorem fits_key (rs ps : Nat) (f : α) (acc : List α) (op : α)
    (h : fits est key m (f :: acc) rs ps op = true) : key f = key op := by
  simp only [fits, List.head?_cons, Bool.and_eq_true, decide_eq_true_eq] at h
  exact h.2

/-- What `issueMulti` yields when the operations collected so far share one key: the collected and remaining
operations in order, consecutive indices, and non-empty bundles of one key each.  The branches, in the order
`fun_induction` gives them: (1) no operation left, nothing collected; (2) no operation left, the collection is
flushed; (3) the operation fits and joins the collection; (4) it does not fit: the collection is flushed and the
operation starts the next one. -/
theorem issueMulti_spec (ops : List α) (idx : Nat) (acc : List α) (rs ps : Nat)
    (hacc : ∀ a ∈ acc, ∀ b ∈ acc, key a = key b) :
    flatMembers (issueMulti est key m rmin pmin idx acc rs ps ops) = acc ++ ops
    ∧ (issueMulti est key m rmin pmin idx acc rs ps ops).map Packet.index
        = List.range' idx (issueMulti est key m rmin pmin idx acc rs ps ops).length
    ∧ ∀ p ∈ issueMulti est key m rmin pmin idx acc rs ps ops,
        p.members ≠ [] ∧ p.bundled = true ∧ ∀ a ∈ p.members, ∀ b ∈ p.members, key a = key b := by
  fun_induction issueMulti est key m rmin pmin idx acc rs ps ops with
  | case1 idx acc rs ps h => exact ⟨by simp [flatMembers, List.isEmpty_iff.mp h], rfl, nofun⟩
  | case2 idx acc rs ps h =>
    refine ⟨by simp [flatMembers], rfl, fun p hp => ?_⟩
    rw [List.mem_singleton.mp hp]
    exact ⟨fun he => h (List.isEmpty_iff.mpr he), rfl, hacc⟩
  | case3 idx acc rs ps op ops hfit ih =>
    -- the collection has the key of its first member, which `fits` compared with that of `op`
    have hop : ∀ x ∈ acc ++ [op], key x = key op := by
      intro x hx
      rcases List.mem_append.mp hx with hx | hx
      · cases acc with
        | nil => cases hx
        | cons f acc' =>
          exact (hacc x hx f List.mem_cons_self).trans (fits_key est key m rs ps f acc' op hfit)
      · rw [List.mem_singleton.mp hx]
    obtain ⟨hmem, hidx, hps⟩ := ih fun a ha b hb => (hop a ha).trans (hop b hb).symm
    exact ⟨by rw [hmem]; simp, hidx, hps⟩
  | case4 idx acc rs ps op ops hfit ih =>
    obtain ⟨hmem, hidx, hps⟩ := ih (by simp)
    refine ⟨?_, ?_, List.forall_mem_cons.mpr ⟨⟨fun he => hfit ?_, rfl, hacc⟩, hps⟩⟩
    · simp only [flatMembers, List.flatMap_cons] at hmem ⊢
      rw [hmem]; simp
    · simp only [List.map_cons, List.length_cons, List.range'_succ]
      rw [hidx]
    · -- an empty collection accepts every operation, so what is flushed is not empty
      rw [show acc = [] from he]
      exact fits_nil est key m rs ps op

theorem issue_members (idx : Nat) (ops : List α) :
    flatMembers (issue est key m rmin pmin idx ops) = ops := by
  fun_cases issue est key m rmin pmin idx ops
  · exact issueSingle_members idx ops
  · simpa using (issueMulti_spec est key m rmin pmin ops idx [] rmin pmin nofun).1

theorem issue_indices (idx : Nat) (ops : List α) :
    (issue est key m rmin pmin idx ops).map Packet.index
      = List.range' idx (issue est key m rmin pmin idx ops).length := by
  fun_cases issue est key m rmin pmin idx ops
  · exact issueSingle_indices idx ops
  · exact (issueMulti_spec est key m rmin pmin ops idx [] rmin pmin nofun).2.1

theorem issue_nonempty (idx : Nat) (ops : List α) :
    ∀ p ∈ issue est key m rmin pmin idx ops, p.members ≠ [] := by
  fun_cases issue est key m rmin pmin idx ops
  · intro p hp
    obtain ⟨_, a, ha⟩ := issueSingle_shape idx ops p hp
    simp [ha]
  · exact fun p hp => ((issueMulti_spec est key m rmin pmin ops idx [] rmin pmin nofun).2.2 p hp).1

theorem issue_same_key (idx : Nat) (ops : List α) :
    ∀ p ∈ issue est key m rmin pmin idx ops, ∀ a ∈ p.members, ∀ b ∈ p.members, key a = key b := by
  fun_cases issue est key m rmin pmin idx ops
  · intro p hp
    obtain ⟨_, c, hc⟩ := issueSingle_shape idx ops p hp
    simp [hc]
  · exact fun p hp => ((issueMulti_spec est key m rmin pmin ops idx [] rmin pmin nofun).2.2 p hp).2.2

theorem length_le_flatMembers (ps : List (Packet α)) (hne : ∀ p ∈ ps, p.members ≠ []) :
    ps.length ≤ (flatMembers ps).length := by
  induction ps with
  | nil => exact Nat.le_refl _
  | cons p ps ih =>
    have h1 : 0 < p.members.length := List.length_pos_iff.mpr (hne p List.mem_cons_self)
    have h2 := ih (fun q hq => hne q (List.mem_cons_of_mem _ hq))
    simp only [flatMembers, List.flatMap_cons, List.length_append, List.length_cons] at h2 ⊢
    omega

theorem issue_length_le (idx : Nat) (ops : List α) :
    (issue est key m rmin pmin idx ops).length ≤ ops.length := by
  have := length_le_flatMembers _ (issue_nonempty est key m rmin pmin idx ops)
  rwa [issue_members] at this

end Cpppo.Client
