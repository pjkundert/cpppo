import Cpppo.Model.Merge

/-! What `shatter`, the sort and the sweep of `merge` do (property C19).  `shatterFuel` tiles its range
(`Consec`).  The sweep is followed with the sorted remainder as one hypothesis, `ByAddr ((base, len) :: rest)`;
`sweep_forall` is its invariant principle ("every emitted block satisfies `P`"), from which bank
confinement and tightness follow; coverage and disjointness have an induction of their own.
`mergeWith_some` says what a successful `merge` is made of. -/
namespace Cpppo.Merge

/-- `x` is one of the registers of range `r`. -/
def InRange (r : Range) (x : Nat) : Prop := r.1 ≤ x ∧ x < r.1 + r.2

/-- `x` is covered by some range of `out`. -/
def Covers (out : List Range) (x : Nat) : Prop := ∃ r ∈ out, InRange r x

/-- `out` is a sequence of non-empty consecutive ranges starting at `s` and ending at `e`. -/
def Consec : Nat → List Range → Nat → Prop
  | s, [], e => s = e
  | s, (a, t) :: rest, e => a = s ∧ 1 ≤ t ∧ Consec (s + t) rest e

/-- a range lies inside one `block`-sized bank -/
def InBank (block : Nat) (r : Range) : Prop := r.1 + r.2 ≤ (r.1 / block + 1) * block

/-- `x` is within distance `< d` of a requested register. -/
def Near (Req : Nat → Prop) (d : Nat) (x : Nat) : Prop := ∃ y, Req y ∧ x < y + d ∧ y < x + d

theorem covers_cons {r : Range} {out : List Range} {x : Nat} :
    Covers (r :: out) x ↔ InRange r x ∨ Covers out x := by
  simp [Covers]

theorem shatterFuel_tiles {lim : Nat} (hl : 0 < lim) (fuel a c : Nat) (hf : c ≤ fuel) :
    Consec a (shatterFuel fuel a c lim) (a + c) ∧ ∀ r ∈ shatterFuel fuel a c lim, r.2 ≤ lim := by
  fun_induction shatterFuel fuel a c lim with
  | case1 => -- no fuel
    obtain rfl := Nat.le_zero.mp hf
    exact ⟨rfl, nofun⟩
  | case2 fuel a c lim h => -- nothing left to take
    obtain rfl : c = 0 := h.resolve_right (Nat.ne_of_gt hl)
    exact ⟨rfl, nofun⟩
  | case3 fuel a c lim h t ih => -- `t = min c lim` registers taken
    have ht : 1 ≤ min c lim := Nat.lt_min.mpr ⟨Nat.pos_of_ne_zero fun h' => h (.inl h'), hl⟩
    have ⟨hcon, hle⟩ := ih hl (by omega)
    rw [Nat.add_assoc, Nat.add_sub_cancel' (Nat.min_le_left c lim)] at hcon
    exact ⟨⟨rfl, ht, hcon⟩, List.forall_mem_cons.mpr ⟨Nat.min_le_right c lim, hle⟩⟩

theorem shatterGo_tiles {lim : Nat} (hl : 0 < lim) (a c : Nat) :
    Consec a (shatterGo a c lim) (a + c) ∧ ∀ r ∈ shatterGo a c lim, r.2 ≤ lim :=
  shatterFuel_tiles hl c a c (Nat.le_refl c)

section
variable {s e : Nat} {out : List Range}

theorem Consec.le (h : Consec s out e) : s ≤ e := by
  induction out generalizing s with
  | nil => exact Nat.le_of_eq h
  | cons r l ih =>
    obtain ⟨a, t⟩ := r
    have := ih h.2.2
    omega

theorem Consec.mem (h : Consec s out e) : ∀ r ∈ out, s ≤ r.1 ∧ r.1 + r.2 ≤ e ∧ 1 ≤ r.2 := by
  induction out generalizing s with
  | nil => nofun
  | cons r l ih =>
    obtain ⟨a, t⟩ := r
    obtain ⟨rfl, ht, hrest⟩ := h
    intro r hr
    rcases List.mem_cons.mp hr with rfl | hr
    · exact ⟨Nat.le_refl _, hrest.le, ht⟩
    · have := ih hrest r hr
      omega

theorem Consec.covers_iff (h : Consec s out e) (x : Nat) : Covers out x ↔ s ≤ x ∧ x < e := by
  induction out generalizing s with
  | nil =>
    obtain rfl : s = e := h
    simp [Covers]
  | cons r rest ih =>
    obtain ⟨a, t⟩ := r
    obtain ⟨rfl, ht, hrest⟩ := h
    have := hrest.le
    simp only [covers_cons, ih hrest, InRange]
    omega

end

/-- consecutive pieces are pairwise ordered and disjoint -/
theorem Consec.pairwise {s e : Nat} {out : List Range} (h : Consec s out e) :
    out.Pairwise (fun r q => r.1 + r.2 ≤ q.1) := by
  induction out generalizing s with
  | nil => simp
  | cons r l ih =>
    obtain ⟨a, t⟩ := r
    obtain ⟨rfl, _, hrest⟩ := h
    exact List.pairwise_cons.mpr ⟨fun q hq => (hrest.mem q hq).1, ih hrest⟩

theorem defaultLimit_pos {coil reg a : Nat} (hc : 0 < coil) (hr : 0 < reg) :
    0 < defaultLimit coil reg a := by
  fun_cases defaultLimit coil reg a <;> assumption

theorem effLimit_pos {coil reg a : Nat} {lim : Option Nat} (hc : 0 < coil) (hr : 0 < reg) :
    0 < effLimit coil reg a lim := by
  fun_cases effLimit coil reg a lim
  · exact defaultLimit_pos hc hr
  · omega
  · exact defaultLimit_pos hc hr

/-- Sorted by address: all that the sweep uses of Python's tuple order. -/
abbrev ByAddr (l : List Range) : Prop := l.Pairwise fun r q => r.1 ≤ q.1

theorem rangeLe_addr {a b : Range} (h : rangeLe a b = true) : a.1 ≤ b.1 := by
  simp only [rangeLe, Bool.or_eq_true, Bool.and_eq_true, decide_eq_true_eq, beq_iff_eq] at h
  omega

theorem addr_le_of_not_rangeLe {a b : Range} (h : ¬rangeLe a b = true) : b.1 ≤ a.1 := by
  simp only [rangeLe, Bool.or_eq_true, Bool.and_eq_true, decide_eq_true_eq, beq_iff_eq] at h
  omega

theorem insertRange_perm (x : Range) (l : List Range) : (insertRange x l).Perm (x :: l) := by
  fun_induction insertRange x l with
  -- `insertRange`: 1 = empty list, 2 = `x` goes before the head `y`, 3 = `x` goes into the tail
  | case1 => exact .refl _
  | case2 => exact .refl _
  | case3 y ys _ ih => exact (ih.cons y).trans (.swap x y ys)

theorem sortRanges_perm (l : List Range) : (sortRanges l).Perm l := by
  induction l with
  | nil => exact .refl _
  | cons x xs ih => exact (insertRange_perm x _).trans (ih.cons x)

theorem insertRange_sorted (x : Range) (l : List Range) (h : ByAddr l) : ByAddr (insertRange x l) := by
  fun_induction insertRange x l with
  | case1 => exact List.pairwise_singleton ..
  | case2 y ys hle => -- before the head
    refine List.pairwise_cons.mpr ⟨fun q hq => ?_, h⟩
    rcases List.mem_cons.mp hq with rfl | hq
    · exact rangeLe_addr hle
    · exact Nat.le_trans (rangeLe_addr hle) (List.rel_of_pairwise_cons h hq)
  | case3 y ys hle ih => -- into the tail
    refine List.pairwise_cons.mpr ⟨fun q hq => ?_, ih h.of_cons⟩
    rcases List.mem_cons.mp ((insertRange_perm x ys).mem_iff.mp hq) with rfl | hq
    · exact addr_le_of_not_rangeLe hle
    · exact List.rel_of_pairwise_cons h hq

theorem sorted_addr (rs : List Range) : ByAddr (sortRanges rs) := by
  induction rs with
  | nil => exact .nil
  | cons x xs ih => exact insertRange_sorted x _ ih

theorem ByAddr.head_le {r q : Range} {rest : List Range} (h : ByAddr (r :: q :: rest)) : r.1 ≤ q.1 :=
  List.rel_of_pairwise_cons h (List.mem_cons_self ..)

theorem ByAddr.absorb {b l : Nat} {q : Range} {rest : List Range} (h : ByAddr ((b, l) :: q :: rest))
    (l' : Nat) : ByAddr ((b, l') :: rest) :=
  List.pairwise_cons.mpr
    ⟨fun _ hr => List.rel_of_pairwise_cons h (List.mem_cons_of_mem _ hr), h.of_cons.of_cons⟩

section
variable {fixed : Bool} {block base len a c : Nat}

/-- where the running block ends after absorbing `(a, c)`: at the larger of both ends (`fixed = true`),
or where the absorbed range ends (`fixed = false`, `mergeOld`) -/
theorem grown_end (hle : base ≤ a) :
    base + (if fixed then max len (a + c - base) else a + c - base) =
      if fixed then max (base + len) (a + c) else a + c := by
  have h : base + (a + c - base) = a + c := Nat.add_sub_cancel' (Nat.le_add_right_of_le hle)
  cases fixed
  · exact h
  · exact (Nat.add_max_add_left ..).symm.trans (congrArg _ h)

theorem InBank.absorb (hb : InBank block (base, len)) (ha : InBank block (a, c)) (hle : base ≤ a)
    (hblk : a / block = base / block) :
    InBank block (base, if fixed then max len (a + c - base) else a + c - base) := by
  unfold InBank at *
  rw [hblk] at ha
  dsimp only at *
  rw [grown_end hle]
  split
  · exact Nat.max_le.mpr ⟨hb, ha⟩
  · exact ha

end

/-- every register of a range that stays inside its bank has the bank of the first -/
theorem InBank.div_eq {block x : Nat} (hpos : 0 < block) {r : Range} (h : InBank block r)
    (h1 : r.1 ≤ x) (h2 : x < r.1 + r.2) : x / block = r.1 / block := by
  have hle : r.1 / block ≤ x / block := Nat.div_le_div_right h1
  have hlt : x / block < r.1 / block + 1 :=
    (Nat.div_lt_iff_lt_mul hpos).mpr (Nat.lt_of_lt_of_le h2 h)
  omega

theorem InBank.sub {block : Nat} (hpos : 0 < block) {s r : Range} (hs : InBank block s)
    (h1 : s.1 ≤ r.1) (h2 : r.1 + r.2 ≤ s.1 + s.2) (hr : 1 ≤ r.2) :
    s.1 / block = r.1 / block ∧ InBank block r := by
  have hdiv := hs.div_eq hpos h1 (by omega)
  refine ⟨hdiv.symm, ?_⟩
  unfold InBank
  rw [hdiv]
  exact Nat.le_trans h2 hs

section
variable {fixed : Bool} {block reach base len : Nat} {rest : List Range}
  (hsorted : ByAddr ((base, len) :: rest))
include hsorted

/-- Invariant of the sweep over a sorted input: a property `P` of blocks that every input range (all of
which satisfy `R`) has when it opens a block, and that survives the absorption of such a range under the
merge test, holds of every block emitted. -/
theorem sweep_forall {R P : Range → Prop} (hopen : ∀ r, R r → P r)
    (habsorb : ∀ {base len a c}, P (base, len) → R (a, c) → base ≤ a →
      a / block = base / block → a < base + len + effReach reach →
      P (base, if fixed then max len (a + c - base) else a + c - base))
    (hall : ∀ r ∈ (base, len) :: rest, R r) :
    ∀ s ∈ sweep fixed block reach base len rest, P s := by
  -- what the induction carries: the running block has `P`, the remainder `R`
  obtain ⟨h0, hrest⟩ := List.forall_mem_cons.mp hall
  replace h0 := hopen _ h0
  clear hall
  -- the branches of `sweep`: 1 = remainder exhausted, 2 = `(a, c)` is absorbed into the running block,
  -- 3 = the running block is emitted and `(a, c)` opens the next, 4 = empty running block, dropped for `(a, c)`
  fun_induction sweep fixed block reach base len rest with
  | case1 base len => exact List.forall_mem_singleton.mpr h0
  | case2 base len a c rest _ hm ih => -- absorb
    obtain ⟨ha, hrest⟩ := List.forall_mem_cons.mp hrest
    exact ih (hsorted.absorb _) hrest (habsorb h0 ha hsorted.head_le hm.1 hm.2)
  | case3 base len a c rest _ _ ih => -- emit
    obtain ⟨ha, hrest⟩ := List.forall_mem_cons.mp hrest
    exact List.forall_mem_cons.mpr ⟨h0, ih hsorted.of_cons hrest (hopen _ ha)⟩
  | case4 base len a c rest _ ih => -- drop
    obtain ⟨ha, hrest⟩ := List.forall_mem_cons.mp hrest
    exact ih hsorted.of_cons hrest (hopen _ ha)

theorem sweep_inBank (hbank : ∀ r ∈ (base, len) :: rest, InBank block r) :
    ∀ s ∈ sweep fixed block reach base len rest, InBank block s :=
  sweep_forall hsorted (fun _ h => h) (fun hb ha hle hblk _ => hb.absorb ha hle hblk) hbank

theorem sweep_disjoint (hpos : 0 < block) (hbank : ∀ r ∈ (base, len) :: rest, InBank block r) :
    (sweep fixed block reach base len rest).Pairwise (fun r q => r.1 + r.2 ≤ q.1) := by
  fun_induction sweep fixed block reach base len rest with
  | case1 => exact List.pairwise_singleton ..
  | case2 base len a c rest _ hm ih => -- absorb
    obtain ⟨h0, ha, hrest⟩ := by simpa only [List.forall_mem_cons] using hbank
    exact ih (hsorted.absorb _) (List.forall_mem_cons.mpr ⟨h0.absorb ha hsorted.head_le hm.1, hrest⟩)
  | case3 base len a c rest _ hm ih => -- emit
    obtain ⟨h0, hrest⟩ := List.forall_mem_cons.mp hbank
    -- `(a, c)` failed the merge test, so it starts behind the running block: inside it, it would share its bank
    have hsep : base + len ≤ a := Nat.le_of_not_lt fun hlt =>
      hm ⟨h0.div_eq hpos hsorted.head_le hlt, Nat.lt_add_right _ hlt⟩
    -- every later block starts at or after `a`: `sweep_forall` with "starts at or after `a`" for `R` and `P`
    have hge : ∀ q ∈ sweep fixed block reach a c rest, a ≤ q.1 :=
      sweep_forall hsorted.of_cons (R := fun r => a ≤ r.1) (fun _ h => h) (fun h _ _ _ _ => h)
        (List.forall_mem_cons.mpr ⟨Nat.le_refl a, fun _ hr => List.rel_of_pairwise_cons hsorted.of_cons hr⟩)
    exact List.pairwise_cons.mpr
      ⟨fun q hq => Nat.le_trans hsep (hge q hq), ih hsorted.of_cons hrest⟩
  | case4 base len a c rest _ ih => -- drop
    exact ih hsorted.of_cons (List.forall_mem_cons.mp hbank).2

/-- Coverage (`fixed = true`): whatever was in the running block or in a pending range is covered. -/
theorem sweep_covers {x : Nat} (hx : Covers ((base, len) :: rest) x) :
    Covers (sweep true block reach base len rest) x := by
  fun_induction sweep true block reach base len rest with
  | case1 => exact hx
  | case2 base len a c rest _ _ ih => -- absorb: the grown block holds what the old one and the absorbed range held
    have hle := hsorted.head_le
    rw [covers_cons, covers_cons, ← or_assoc] at hx
    refine ih (hsorted.absorb _) (covers_cons.mpr (hx.imp_left ?_))
    unfold InRange
    dsimp only
    rw [grown_end hle]
    rintro (h | h)
    · exact ⟨h.1, Nat.lt_of_lt_of_le h.2 (Nat.le_max_left ..)⟩
    · exact ⟨Nat.le_trans hle h.1, Nat.lt_of_lt_of_le h.2 (Nat.le_max_right ..)⟩
  | case3 base len a c rest _ _ ih => -- emit
    rw [covers_cons] at hx ⊢
    exact hx.imp_right (ih hsorted.of_cons)
  | case4 base len a c rest hlen ih => -- drop: an empty block holds nothing
    rw [covers_cons] at hx
    refine ih hsorted.of_cons (hx.resolve_left fun h => ?_)
    simp only [InRange] at h
    omega

/-- Tightness: every register of every block is near a requested one (non-empty input ranges). -/
theorem sweep_tight {Req : Nat → Prop}
    (hreq : ∀ r ∈ (base, len) :: rest, 1 ≤ r.2 ∧ ∀ y, InRange r y → Req y) :
    ∀ s ∈ sweep fixed block reach base len rest, ∀ x, InRange s x → Near Req (effReach reach) x := by
  have hpos : 0 < effReach reach := by fun_cases effReach reach <;> omega
  have self : ∀ {y}, Req y → Near Req (effReach reach) y :=
    fun h => ⟨_, h, Nat.lt_add_of_pos_right hpos, Nat.lt_add_of_pos_right hpos⟩
  refine sweep_forall hsorted (fun r hr x hx => self (hr.2 x hx)) ?_ hreq
  intro base len a c hb ⟨hc, ha⟩ hle _ hnear x hx
  have hx2 : x < base + _ := hx.2
  rw [grown_end hle] at hx2
  by_cases h1 : x < base + len
  · exact hb x ⟨hx.1, h1⟩
  · by_cases h2 : a ≤ x
    · refine self (ha x ⟨h2, ?_⟩)
      show x < a + c
      split at hx2 <;> omega
    · -- a register of the gap: near `a`, which is requested
      exact ⟨a, ha a ⟨Nat.le_refl a, Nat.lt_add_of_pos_right hc⟩, Nat.lt_add_right _ (Nat.lt_of_not_le h2),
        Nat.lt_of_lt_of_le hnear (Nat.add_le_add_right (Nat.le_of_not_lt h1) _)⟩

end

/-- What `merge` computes when it answers: the sorted input `(b, l) :: rest`, swept and shattered. -/
theorem mergeWith_some {fixed : Bool} {cfg : Cfg} {rs : List Range} {reach : Nat} {lim : Option Nat}
    {out : List Range} (h : mergeWith fixed cfg rs reach lim = some out) :
    ∃ b l rest, ((b, l) :: rest).Perm rs ∧ ByAddr ((b, l) :: rest) ∧
      out = (sweep fixed cfg.block reach b l rest).flatMap fun r => shatter cfg r.1 r.2 lim := by
  unfold mergeWith at h
  revert h
  fun_cases blocksOf fixed cfg rs reach with
  | case1 => nofun -- empty input: `none`
  | case2 b l rest hs =>
    exact fun h => ⟨b, l, rest, hs ▸ sortRanges_perm rs, hs ▸ sorted_addr rs, (Option.some.inj h).symm⟩

end Cpppo.Merge
