import Cpppo.Proofs.Connected
import Cpppo.Proofs.Reply
import Cpppo.Proofs.Wf
import Cpppo.Props.C03
import Cpppo.Props.C07
/-! Reference encoder, server, reference decoder in a row, for any request; `Props/C14.lean` specialises.  At the end two
facts about `exec` that C14 needs. -/
namespace Cpppo.Interop
open Cpppo Cpppo.Logix Cpppo.Fields

theorem encodeReply_head {r : Reply} {rep : Bytes} (h : encodeReply r = some rep) : ∃ tail, rep = r.svc :: 0 :: tail := by
  unfold encodeReply at h
  split at h
  · split at h
    · obtain ⟨cks, _, rfl⟩ := Option.map_eq_some_iff.mp h
      exact ⟨_, rfl⟩
    · cases h; exact ⟨_, rfl⟩
  · cases h; exact ⟨_, rfl⟩

theorem decCip_tag {r : Reply} {rep : Bytes} (h : encodeReply r = some rep) (hok : ReplyOk r)
    (hsvc : r.svc ≠ 0xD4 ∧ r.svc ≠ 0xDB ∧ r.svc ≠ 0xCE) : Ref.decCip rep = some (.tag r) := by
  obtain ⟨tail, ht⟩ := encodeReply_head h
  have hd := decReply_encodeReply h hok
  subst ht
  simp only [Ref.decCip, hsvc.1, hsvc.2.1, hsvc.2.2, or_self, ↓reduceIte, hd, Option.map_some]

/-- **An unconnected request, end to end**: whatever reply `R` the bytes `exec` answers with encode (a tag-service reply,
a bundle of them), the server's frame is read by the reference decoder as `R`. -/
theorem request_end_to_end (st : Srv.St) (rnd : Srv.Rnd) {c : Ref.Ctx} {t : Ref.Transport} {timeout : Nat} {r : Req}
    {fr : Bytes} (hun : Unconnected t = true) (hc : CtxOk c = true)
    (henc : Ref.encMsg c (.request t timeout r) = some fr) (hw : WFReq r = true) (hcm : notCM st.dev r = true)
    (hro : hasRouter st.dev = true) {R : Reply} {rep : Bytes} (hexec : (exec st.dev r).2 = some rep)
    (hR : encodeReply R = some rep) (hok : ReplyOk R) (hsvc : R.svc ≠ 0xD4 ∧ R.svc ≠ 0xDB ∧ R.svc ≠ 0xCE)
    (hsize : rep.length < 65000) :
    ∃ out, Srv.serve st rnd fr = ({ st with dev := (exec st.dev r).1 }, .reply out)
      ∧ Ref.decReplyMsg out = some (c.hdr 0x6F, .cip none 0 timeout (.tag R)) := by
  have ht : timeout < 65536 := by
    cases t with
    | connected id seq => cases hun
    | direct => obtain ⟨_, _, _, hrr⟩ := encMsg_some henc; exact (encRR_some hrr).1
    | wrapped prio ticks route => obtain ⟨_, _, _, _, hrr⟩ := encMsg_some henc; exact (encRR_some hrr).1
  refine ⟨_, serve_unconnected hun hc henc hw hcm hro hexec, ?_⟩
  rw [decReplyMsg_rrFrame hc ht hsize, decCip_tag hR hok hsvc]
  rfl

theorem connected_request_end_to_end (st : Srv.St) (rnd : Srv.Rnd) {c : Ref.Ctx} {id seq timeout : Nat} {r : Req}
    {fr : Bytes} (hc : CtxOk c = true) (henc : Ref.encMsg c (.request (.connected id seq) timeout r) = some fr)
    (hw : WFReq r = true) (hro : hasRouter st.dev = true) (hconn : ConnRouter st id) {R : Reply} {rep : Bytes}
    (hexec : (exec st.dev r).2 = some rep) (hR : encodeReply R = some rep) (hok : ReplyOk R)
    (hsvc : R.svc ≠ 0xD4 ∧ R.svc ≠ 0xDB ∧ R.svc ≠ 0xCE) (hsize : rep.length < 65000) :
    ∃ out, Srv.serve st rnd fr = ({ dev := (exec st.dev r).1, fwds := popPorts st.fwds id }, .reply out)
      ∧ Ref.decReplyMsg out = some (c.hdr 0x70, .cip (some (id, seq)) 0 timeout (.tag R)) := by
  obtain ⟨_, _, ⟨ht, _, hid, hseq⟩, _⟩ := encMsg_some henc
  refine ⟨_, serve_connected hc henc hw hro hconn hexec, ?_⟩
  rw [decReplyMsg_unitFrame hc ht hid hseq hsize, decCip_tag hR hok hsvc]
  rfl

theorem isTagSvc_svc (d : Dev) {s : Simple} (hs : isTagSvc s = true) :
    (execSimple d s).2.svc ≠ 0xD4 ∧ (execSimple d s).2.svc ≠ 0xDB ∧ (execSimple d s).2.svc ≠ 0xCE := by
  have key : ∀ self svc isRead isFrag p ty n off data,
      (execTag d self svc isRead isFrag p ty n off data).2.svc = svc := by
    intro self svc isRead isFrag p ty n off data
    fun_cases execTag d self svc isRead isFrag p ty n off data <;> rfl
  cases s <;> simp only [isTagSvc, Bool.false_eq_true] at hs <;>
    simp only [execSimple, execSimpleAt, key] <;> decide

theorem runSingly_reads (d : Dev) (ps : List Path) :
    runSingly d (ps.map fun p => Simple.readTag p 1) = (d, ps.map fun p => (execSimple d (.readTag p 1)).2) := by
  induction ps with
  | nil => rfl
  | cons p rest ih =>
    have h1 : (execSimple d (.readTag p 1)).1 = d := by
      unfold execSimple execSimpleAt; exact execTag_read_noop _ _ _ _ _ _ _
    have h2 : execSimple d (.readTag p 1) = (d, (execSimple d (.readTag p 1)).2) := Prod.ext h1 rfl
    simp only [List.map_cons, runSingly]
    rw [h2]
    simp only [ih]

end Cpppo.Interop
