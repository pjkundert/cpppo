/-!
The greedy run that both the specification (`Rx.specGo`, over derivatives) and the fsm restricted to kept
states (`Fsm.liveGo`) perform: follow the input for as long as the next state passes a test.  When the
test decides a property that a state can only have if its predecessor has it ("a sentence can still be
reached"), what is consumed is the longest prefix of the input whose state has that property.
-/
namespace Cpppo

variable {σ α : Type} (step : σ → α → σ) (ok : σ → Bool)

def longestGo : σ → List α → List α × σ
  | s, [] => ([], s)
  | s, c :: w =>
    if ok (step s c) then (c :: (longestGo (step s c) w).1, (longestGo (step s c) w).2) else ([], s)

-- branches of `longestGo`: case1 = input at its end, case2 = next state passes `ok`, case3 = it does not
theorem longestGo_run (w : List α) (s : σ) :
    (longestGo step ok s w).2 = (longestGo step ok s w).1.foldl step s := by
  fun_induction longestGo step ok s w with
  | case1 s => rfl
  | case2 s c w hk ih => exact ih
  | case3 s c w hk => rfl

variable {step ok} {I Q : σ → Prop}

theorem of_foldl_step (hQ : ∀ s c, Q (step s c) → Q s) : ∀ (p : List α) (s : σ), Q (p.foldl step s) → Q s
  | [], _, h => h
  | c :: p, s, h => hQ s c (of_foldl_step hQ p (step s c) h)

/-- `I` is an invariant of `step` under which `ok` decides `Q`, `Q` is inherited by predecessors, and `P`
says of a prefix of the input that it leads to a state with `Q`: the run consumes the longest prefix with `P`. -/
theorem longestGo_spec {P : List α → Prop} (hI : ∀ s c, I s → I (step s c)) (hQ : ∀ s c, Q (step s c) → Q s)
    (hok : ∀ s, I s → (ok s = true ↔ Q s)) (w : List α) (s : σ) (hP : ∀ p, P p ↔ Q (p.foldl step s))
    (hi : I s) (hq : Q s) :
      (longestGo step ok s w).1 <+: w ∧ P (longestGo step ok s w).1 ∧
      ∀ p, p <+: w → P p → p.length ≤ (longestGo step ok s w).1.length := by
  fun_induction longestGo step ok s w generalizing P with
  | case1 s =>
    exact ⟨List.prefix_refl _, (hP []).mpr hq, fun p hp _ => by rw [List.prefix_nil.mp hp]; exact Nat.le_refl _⟩
  | case2 s c w hk ih =>
    have hi' := hI s c hi
    obtain ⟨h1, h3, h4⟩ := ih (fun p => hP (c :: p)) hi' ((hok _ hi').mp hk)
    refine ⟨List.cons_prefix_cons.mpr ⟨rfl, h1⟩, h3, fun p hp hpq => ?_⟩
    cases p with
    | nil => exact Nat.zero_le _
    | cons d p =>
      obtain ⟨rfl, hp'⟩ := List.cons_prefix_cons.mp hp
      exact Nat.succ_le_succ (h4 p hp' hpq)
  | case3 s c w hk =>
    refine ⟨List.nil_prefix, (hP []).mpr hq, fun p hp hpq => ?_⟩
    cases p with
    | nil => exact Nat.zero_le _
    | cons d p =>
      obtain ⟨rfl, _⟩ := List.cons_prefix_cons.mp hp
      exact absurd ((hok _ (hI s d hi)).mpr (of_foldl_step hQ p _ ((hP _).mp hpq))) hk

end Cpppo
