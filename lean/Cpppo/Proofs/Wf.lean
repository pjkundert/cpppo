import Cpppo.Proofs.Connected
/-! What the reference encoder emits are bytes: every element of the frame is below 256. -/
namespace Cpppo.Interop
open Cpppo Cpppo.Logix Cpppo.Fields

theorem wf_append (a b : Bytes) : (a ++ b).wf = (a.wf && b.wf) := by simp [Bytes.wf]

theorem wf_cons (x : Nat) (b : Bytes) : Bytes.wf (x :: b) = (decide (x < 256) && b.wf) := by simp [Bytes.wf]

theorem wf_nil : Bytes.wf [] = true := rfl

theorem wf_pad (n : Nat) : Bytes.wf (if n % 2 = 1 then [0] else []) = true := by split <;> rfl

attribute [local simp] wf_append wf_cons wf_nil le_wf wf_pad

theorem encNum_wf {t n : Nat} {w : Bool} {b : Bytes} (ht : t + 2 < 256) (h : Ref.encNum t n w = some b) : b.wf = true := by
  rcases encNum_some h with ⟨_, rfl⟩ | ⟨_, rfl⟩ | ⟨_, _, rfl⟩ <;> simp <;> omega

theorem encSeg_wf {s : Seg} {b : Bytes} (h : Ref.encSeg s = some b) : b.wf = true := by
  cases s with
  | symbolic str =>
    obtain ⟨⟨_, h1, h2⟩, rfl⟩ := encSeg_symbolic h
    simp [h1, show (strBytes str).wf = true from h2]
  | cls n | ins n | attr n | elem n => exact encNum_wf (by decide) h
  | other => simp [Ref.encSeg] at h

theorem encSegs_wf {p : Path} {b : Bytes} (h : Ref.encSegs p = some b) : b.wf = true := by
  -- along `Ref.encSegs` (likewise `encSimples`, `encPorts` below): the empty list, then head and rest both encoded
  revert h
  fun_induction Ref.encSegs p generalizing b <;> intro h <;> cases h
  · rfl
  · rename_i hb ha ih
    simp [encSeg_wf ha, ih hb]

theorem encEpath_wf {p : Path} {e : Bytes} (h : Ref.encEpath p = some e) : e.wf = true := by
  obtain ⟨b, hb, hl, rfl⟩ := encEpath_some h
  simp [encSegs_wf hb]; omega

theorem encSimple_wf {s : Simple} {b : Bytes} (h : Ref.encSimple s = some b) : b.wf = true := by
  obtain ⟨e, he, hok, rfl⟩ := encSimple_some h
  cases s <;> simp [simpleOk] at hok <;> simp [Ref.reqService, simpleTail, encEpath_wf he, hok]

theorem flatten_wf {ms : List Bytes} (h : ∀ m ∈ ms, m.wf = true) : Bytes.wf ms.flatten = true := by
  induction ms with
  | nil => rfl
  | cons m rest ih => simp [h m (by simp), ih (fun x hx => h x (by simp [hx]))]

theorem encSimples_wf {ss : List Simple} {ms : List Bytes} (h : Ref.encSimples ss = some ms) : ∀ m ∈ ms, m.wf = true := by
  revert h
  fun_induction Ref.encSimples ss generalizing ms <;> intro h <;> cases h
  · simp
  · rename_i hb ha ih
    simpa [encSimple_wf ha] using ih hb

theorem encTable_wf {ms : List Bytes} (h : ∀ m ∈ ms, m.wf = true) : (Ref.encTable ms).wf = true := by
  have : Bytes.wf ((Ref.offsetsFrom (2 + 2 * ms.length) ms).map (Bytes.le 2)).flatten = true := by
    apply flatten_wf
    intro m hm
    obtain ⟨o, _, rfl⟩ := List.mem_map.mp hm
    exact le_wf _ _
  simp [Ref.encTable, this, flatten_wf h]

theorem encReq_wf {r : Req} {b : Bytes} (h : Ref.encReq r = some b) : b.wf = true := by
  cases r with
  | simple s => exact encSimple_wf h
  | multiple p ss =>
    obtain ⟨e, ms, he, hms, _, rfl⟩ := encReq_multiple h
    simp [encEpath_wf he, encTable_wf (encSimples_wf hms)]

theorem encPorts_wf {ports : List (Nat × Nat)} {b : Bytes} (h : Ref.encPorts ports = some b) : b.wf = true := by
  revert h
  fun_induction Ref.encPorts ports generalizing b <;> intro h <;> cases h
  · rfl
  · rename_i hb hr ih
    simp [ih hb, hr.2.2]; omega

theorem encFrame_wf {c : Ref.Ctx} {cmd : Nat} {payload : Bytes} (hc : CtxOk c = true) (hp : payload.wf = true) :
    (Ref.encFrame (c.hdr cmd) payload).wf = true := by
  simp only [CtxOk, Bool.and_eq_true] at hc
  simp [Ref.encFrame, Ref.Ctx.hdr, hc.2, hp]

theorem encUnconnectedSend_wf {prio ticks : Nat} {req : Bytes} {route : List (Nat × Nat)} {w : Bytes}
    (h : Ref.encUnconnectedSend prio ticks req route = some w) (hr : req.wf = true) : w.wf = true := by
  obtain ⟨rp, hrp, ⟨h1, h2, _, h4⟩, rfl⟩ := encUnconnectedSend_some h
  simp [h1, h2, h4, hr, encPorts_wf hrp]

theorem encConnPath_wf {ports : List (Nat × Nat)} {target : Path} {cp : Bytes}
    (h : Ref.encConnPath ports target = some cp) : cp.wf = true ∧ cp.length / 2 < 256 := by
  obtain ⟨a, b, ha, hb, rfl, hl, _⟩ := encConnPath_some h
  exact ⟨by simp [encPorts_wf ha, encSegs_wf hb], by omega⟩

theorem encFwdOpen_wf {fo : Ref.FwdOpen} {b : Bytes} (h : Ref.encFwdOpen fo = some b) : b.wf = true := by
  obtain ⟨cp, hcp, rfl, hprio, hticks, _, _, _, _, _, hmult, _, _, _, _, htct⟩ := encFwdOpen_some h
  have hsvc : (if fo.large then 0x5B else 0x54) < 256 := by cases fo.large <;> decide
  simp only [wf_append, wf_cons, wf_nil, le_wf, hsvc, hprio, hticks, hmult, htct, encConnPath_wf hcp, Nat.reduceLT, decide_true,
    Bool.and_self]

theorem encFwdClose_wf {fc : Ref.FwdClose} {b : Bytes} (h : Ref.encFwdClose fc = some b) : b.wf = true := by
  obtain ⟨cp, hcp, rfl, hprio, hticks, _⟩ := encFwdClose_some h
  simp [hprio, hticks, encConnPath_wf hcp]

theorem encRR_wf {c : Ref.Ctx} {timeout : Nat} {cip fr : Bytes} (hc : CtxOk c = true) (hcip : cip.wf = true)
    (h : Ref.encRR c timeout cip = some fr) : fr.wf = true := by
  obtain ⟨_, _, rfl⟩ := encRR_some h
  exact encFrame_wf hc (by simp [rrPayload, Ref.encSendData, Ref.encItem, hcip])

/-- **the reference encoder emits bytes** -/
theorem encMsg_wf (c : Ref.Ctx) (m : Ref.Msg) (fr : Bytes) (hc : CtxOk c = true) (h : Ref.encMsg c m = some fr) :
    fr.wf = true := by
  revert h
  fun_cases Ref.encMsg c m <;> intro h <;> try cases h
  -- the seven branches that encode, in the order of `Ref.encMsg` (as in `encMsg_some`)
  · exact encFrame_wf hc (by simp)                                         -- register
  · exact encFrame_wf hc wf_nil                                            -- unregister
  · exact encRR_wf hc (encReq_wf ‹_›) h                                    -- request, direct
  · exact encRR_wf hc (encUnconnectedSend_wf ‹_› (encReq_wf ‹_›)) h        -- request, wrapped
  · exact encFrame_wf hc (by simp [Ref.encSendData, Ref.encItem, encReq_wf ‹_›])   -- request, connected
  · exact encRR_wf hc (encFwdOpen_wf ‹_›) h                                -- Forward Open
  · exact encRR_wf hc (encFwdClose_wf ‹_›) h                               -- Forward Close

end Cpppo.Interop
