import Cpppo.Model.Engine
/-!
Invariants of the engine model (helper lemmas for `Props/C10.lean`).

`Adv w w'`   : `w'` is `w` after consuming a prefix of what was still to be delivered
               (nothing skipped or reordered; `sent` advanced by exactly that many symbols)
`Idle w w'`  : nothing consumed (`sent` and the symbols still to come are the same)
`Quiet w w'` : only the driver's hook ran (additionally the data artifact and tape are the same)
`CrumbsLe`   : no crumb of a `seen` set lies in the future (`sent` beyond the given position)
               (`Good.crumbs` keeps this for the delegate's set, so that a crumb repeating at the
               ending is one held on entry and the closed run has consumed nothing)
`Good`       : what one `state.run` guarantees to the `delegate` that started it
`TransGood`  : what the transition loop at the end of a `state.run` guarantees to that run
`CycleGood`  : what the repeated passes of a dfa over its sub-machine guarantee to `delegate`
-/
namespace Cpppo.Engine
open Cpppo.Source

def Adv (w w' : World) : Prop :=
  ∃ c : List Sym, w.total = c ++ w'.total ∧ w'.sent = w.sent + c.length

structure Idle (w w' : World) : Prop where
  sent : w'.sent = w.sent
  total : w'.total = w.total

structure Quiet (w w' : World) : Prop extends Idle w w' where
  data : w'.data = w.data
  tape : w'.tape = w.tape

theorem Adv.refl (w : World) : Adv w w := ⟨[], by simp, by simp⟩

theorem Adv.trans {a b c : World} (h1 : Adv a b) (h2 : Adv b c) : Adv a c := by
  obtain ⟨x, hx, sx⟩ := h1
  obtain ⟨y, hy, sy⟩ := h2
  refine ⟨x ++ y, by rw [hx, hy, List.append_assoc], ?_⟩
  rw [sy, sx, List.length_append, Int.natCast_add, Int.add_assoc]

theorem Adv.sent_le {a b : World} (h : Adv a b) : a.sent ≤ b.sent := by
  obtain ⟨x, _, sx⟩ := h; omega

theorem Idle.adv {a b : World} (h : Idle a b) : Adv a b := ⟨[], by simp [h.total], by simp [h.sent]⟩

theorem Idle.refl (w : World) : Idle w w := ⟨rfl, rfl⟩

theorem Idle.trans {a b c : World} (h1 : Idle a b) (h2 : Idle b c) : Idle a c :=
  ⟨h2.sent.trans h1.sent, h2.total.trans h1.total⟩

theorem Quiet.refl (w : World) : Quiet w w := ⟨Idle.refl w, rfl, rfl⟩

theorem Quiet.trans {a b c : World} (h1 : Quiet a b) (h2 : Quiet b c) : Quiet a c :=
  ⟨h1.toIdle.trans h2.toIdle, h2.data.trans h1.data, h2.tape.trans h1.tape⟩

theorem Idle.of_src {w w' : World} (h1 : w'.src = w.src) (h2 : w'.pend = w.pend) : Idle w w' :=
  ⟨by simp [World.sent, h1], by simp [World.total, h1, h2]⟩

theorem hook_quiet (w : World) (t : Option Nat) : Quiet w (w.hook t) := by
  fun_cases World.hook w t with
  | case1 | case2 => exact Quiet.refl w  -- a transition event; nothing pending
  | case3 b r hp =>  -- the next block is chained
    exact ⟨⟨rfl, by simp [World.total, ASrc.chainBlock, hp]⟩, rfl, rfl⟩

theorem setDfa_idle (w : World) (i : Nat) (d : DfaSt) : Idle w (w.setDfa i d) :=
  Idle.of_src rfl rfl

theorem setField_idle (w : World) (k v : Nat) : Idle w (w.setField k v) :=
  Idle.of_src rfl rfl

theorem pop_idle (w : World) : Idle w w.pop.2 := by
  unfold World.pop
  split <;> exact Idle.of_src rfl rfl

theorem evalPred_idle {w w' : World} {p : Pred} {b : Bool} (h : evalPred w p = (b, w')) : Idle w w' := by
  have : Idle w (evalPred w p).2 := by
    cases p with
    | tape => exact pop_idle w
    | _ => exact Idle.refl w
  rwa [h] at this

theorem evalChoice_idle {w w1 : World} {ch : List Target} {tgt : Option Nat}
    (h : evalChoice w ch = (tgt, w1)) : Idle w w1 := by
  revert h
  fun_induction evalChoice w ch generalizing tgt w1 with
  | case1 | case2 => rintro ⟨⟩; exact Idle.refl _  -- empty list; plain target
  | case3 _ _ _ _ _ hp => rintro ⟨⟩; exact evalPred_idle hp  -- guard holds, has a state
  | case4 _ _ _ _ hp ih => exact fun h => (evalPred_idle hp).trans (ih h)  -- guard holds, state `None`
  | case5 _ _ _ _ _ _ hp _ ih => exact fun h => (evalPred_idle hp).trans (ih h)  -- guard fails

theorem resolve_idle (w : World) (sp : Spec) : Idle w (resolve w sp).2 := by
  cases sp with
  | tape => exact pop_idle w
  | _ => exact Idle.refl w

theorem resolve_congr {w w' : World} (hd : w'.data = w.data) (ht : w'.tape = w.tape) (sp : Spec) :
    (resolve w' sp).1 = (resolve w sp).1 := by
  cases sp <;> simp [resolve, World.field, World.pop, hd, ht]
  split <;> rfl

theorem advance_adv (w : World) : Adv w w.advance ∧ w.advance.sent ≤ w.sent + 1 ∧
    w.advance.data = w.data ∧ w.advance.tape = w.tape := by
  unfold World.advance ASrc.next
  cases hr : w.src.rest with
  | nil => exact ⟨⟨[], by simp [World.total, hr], by simp [World.sent]⟩, by simp only [World.sent]; omega, rfl, rfl⟩
  | cons x r => exact ⟨⟨[x], by simp [World.total, hr], by simp [World.sent]⟩, by simp [World.sent], rfl, rfl⟩

/-- the number of symbols a state takes on entry -/
def State.own (s : State) : Nat :=
  match s.kind with
  | .input => 1
  | .drop => 1
  | _ => 0

theorem process_adv (s : State) (w : World) : Adv w (process s w)
    ∧ (process s w).sent ≤ w.sent + s.own
    ∧ (process s w).data = w.data ∧ (process s w).tape = w.tape := by
  unfold process State.own
  cases s.kind with
  | input | drop => exact advance_adv w
  | _ => exact ⟨Adv.refl w, by simp, rfl, rfl⟩

/-- states that consume nothing on entry -/
def State.quiet (s : State) : Prop := s.kind ≠ .input ∧ s.kind ≠ .drop

theorem process_quiet {s : State} (h : s.quiet) (w : World) : process s w = w := by
  unfold process
  split
  · exact absurd ‹_› h.1
  · exact absurd ‹_› h.2
  · rfl

/-- a position not beyond the ending (vacuous without one) -/
def Within (e : Option Int) (s : Int) : Prop := ∀ x, e = some x → s ≤ x

/-- within the ending a state computes for itself is within the enclosing one and within its limit -/
theorem Within.of_shrink {e : Option Int} {s p : Int} {l : Option Nat} (h : Within (shrink e s l) p) :
    Within e p ∧ ∀ L, l = some L → p ≤ s + L := by
  revert h
  -- the branches of `shrink`, in this order: no limit; a limit and no ending; the limit lies before
  -- the ending; the ending lies before the limit
  fun_cases shrink e s l
  · exact fun h => ⟨h, nofun⟩
  · exact fun h => ⟨nofun, fun _ hL => Option.some.inj hL ▸ h _ rfl⟩
  · exact fun h => ⟨fun y hy => by cases hy; have := h _ rfl; omega,
      fun _ hL => Option.some.inj hL ▸ h _ rfl⟩
  · exact fun h => ⟨h, fun _ hL => by cases hL; have := h _ rfl; omega⟩

theorem shrink_none {e : Option Int} {s : Int} {l : Option Nat} (h : shrink e s l = none) :
    e = none ∧ l = none := by
  revert h
  fun_cases shrink e s l
  · exact fun h => ⟨h, rfl⟩
  all_goals nofun

def CrumbsLe (ps : Option (List Crumb)) (s : Int) : Prop := ∀ l, ps = some l → ∀ c ∈ l, c.2.2 ≤ s

theorem CrumbsLe.mono {ps : Option (List Crumb)} {s t : Int} (h : CrumbsLe ps s) (hst : s ≤ t) :
    CrumbsLe ps t := fun l hl c hc => Int.le_trans (h l hl c hc) hst

theorem CrumbsLe.none (s : Int) : CrumbsLe none s := fun _ h => by simp at h

theorem CrumbsLe.singleton (w : World) (t : Option Nat) : CrumbsLe (some [w.crumb t]) w.sent := by
  intro l hl c hc
  cases hl
  cases List.mem_singleton.mp hc
  exact Int.le_refl _

structure Good (M : Machine) (i : Nat) (ps : Option (List Crumb)) (e : Option Int) (w : World)
    (r : RunOut) : Prop where
  /-- nothing skipped, nothing reordered, `sent` counts what was taken -/
  adv : Adv w r.w
  /-- a run that ends by itself ends at or before the enclosing ending -/
  lim : r.closed = false → ∀ x, e = some x → r.w.sent ≤ x
  crumbs : ∀ s0, CrumbsLe ps s0 → r.w.sent ≤ s0 → CrumbsLe r.ps s0
  /-- so does a run closed by its delegate -/
  closedLim : r.closed = true → CrumbsLe ps w.sent → ∀ x, e = some x → w.sent ≤ x → r.w.sent ≤ x
  /-- the state's own limit: at most `limit` symbols after its own -/
  ownLim : ∀ L, (resolve w (M.st i).limit).1 = some L → (r.closed = true → CrumbsLe ps w.sent) →
    r.w.sent ≤ w.sent + (M.st i).own + L
  /-- the outermost run is never closed -/
  top : ps = none → r.closed = false

def ChildOK (M : Machine) (child : Child) : Prop :=
  ∀ i ps e w r, child i ps e w = .ok r → Good M i ps e w r

variable {M : Machine} {child : Child} {s : State} {i init cur cycle final f : Nat} {e : Option Int}
  {limited : Bool} {seen : List Crumb} {ps ps' : Option (List Crumb)} {w w' : World} {c : Bool}
  {t : TransOut} {r : RunOut} {out : World × Nat × Bool}

/-- good: ended within the ending computed at `p`, or closed having consumed nothing -/
theorem Good.of_fin {p : Int} (adv : Adv w r.w)
    (crumbs : ∀ s0, CrumbsLe ps s0 → r.w.sent ≤ s0 → CrumbsLe r.ps s0)
    (top : ps = none → r.closed = false) (hp : p ≤ w.sent + (M.st i).own)
    (fin : Within (shrink e p (resolve w (M.st i).limit).1) r.w.sent
        ∨ r.closed = true ∧ (CrumbsLe ps w.sent → r.w.sent ≤ w.sent)) : Good M i ps e w r := by
  rcases fin with h | h
  · obtain ⟨h1, h2⟩ := Within.of_shrink h
    exact { adv, crumbs, top, lim := fun _ => h1, closedLim := fun _ _ x hx _ => h1 x hx,
            ownLim := fun L hL _ => by have := h2 L hL; omega }
  · exact { adv, crumbs, top, lim := fun hc => (by rw [hc] at h; cases h.1),
            closedLim := fun _ hps x _ hw => Int.le_trans (h.2 hps) hw,
            ownLim := fun L _ hps => by have := h.2 (hps h.1); omega }

theorem emit_spec {tgt : Option Nat} (h : emit ps w tgt = (ps', w', c)) :
    Quiet w w'
    ∧ (∀ s, CrumbsLe ps s → w.sent ≤ s → CrumbsLe ps' s)
    ∧ (c = true → ∃ l, ps = some l ∧ w.crumb tgt ∈ l)
    ∧ (ps = none → c = false ∧ ps' = none) := by
  revert h
  fun_cases emit ps w tgt with
  | case1 =>  -- outermost run: no delegate
    rintro ⟨⟩; exact ⟨hook_quiet w tgt, fun _ h _ => h, nofun, fun _ => ⟨rfl, rfl⟩⟩
  | case2 l hm =>  -- the crumb repeats: stasis
    rintro ⟨⟩; exact ⟨hook_quiet w tgt, fun _ h _ => h, fun _ => ⟨l, rfl, hm⟩, nofun⟩
  | case3 l hm =>  -- a new crumb
    rintro ⟨⟩
    refine ⟨hook_quiet w tgt, fun s h hs l' hl' c hc => ?_, nofun, nofun⟩
    cases hl'
    rcases List.mem_cons.mp hc with rfl | hc
    · exact hs
    · exact h l rfl c hc

theorem acceptLoop_spec {out : Option (List Crumb) × World × Bool}
    (h : acceptLoop s f seen ps w = .ok out) :
    Quiet w out.2.1
    ∧ (∀ s0, CrumbsLe ps s0 → w.sent ≤ s0 → CrumbsLe out.1 s0)
    ∧ (ps = none → out.1 = none)
    ∧ (out.2.2 = false → accepts s out.2.1 = true)
    -- a crumb the state has seen itself makes it fail with "no progress" before the delegate sees stasis
    ∧ (out.2.2 = true → ∃ l, ps = some l ∧ ∃ c ∈ l, c.1 = none ∧ c ∉ seen) := by
  revert h
  fun_induction acceptLoop s f seen ps w generalizing out with
  | case1 | case3 => nofun  -- out of fuel; "no progress"
  | case2 f seen ps w ha =>  -- the symbol is acceptable
    rintro ⟨⟩
    exact ⟨Quiet.refl w, fun _ h _ => h, id, fun _ => ha, nofun⟩
  | case4 f seen ps w ha hs ps' w' he =>  -- `yield machine,None`, and the delegate closes
    rintro ⟨⟩
    obtain ⟨hq, hcr, hcl, htop⟩ := emit_spec he
    obtain ⟨l, hl, hm⟩ := hcl rfl
    exact ⟨hq, hcr, fun hn => (htop hn).2, nofun, fun _ => ⟨l, hl, _, hm, rfl, hs⟩⟩
  | case5 f seen ps w ha hs ps' w' he ih =>  -- `yield machine,None`, and the wait goes on
    intro h
    obtain ⟨hq, hcr, -, htop⟩ := emit_spec he
    obtain ⟨hq', hcr', htop', hacc, hst⟩ := ih h
    refine ⟨hq.trans hq', fun s0 hc hs => hcr' s0 (hcr s0 hc hs) (hq.sent ▸ hs),
      fun hn => htop' (htop hn).2, hacc, fun ho => ?_⟩
    obtain ⟨l', hl', c, hc, hcn, hcs⟩ := hst ho
    revert he
    fun_cases emit ps w none with
    | case1 => rintro ⟨⟩; cases hl'  -- no delegate
    | case2 => nofun  -- stasis
    | case3 l hm =>  -- the new crumb is also in `seen`
      rintro ⟨⟩; cases hl'
      rcases List.mem_cons.mp hc with rfl | hc
      · exact absurd List.mem_cons_self hcs
      · exact ⟨l, rfl, c, hc, hcn, fun h => hcs (List.mem_cons_of_mem _ h)⟩

theorem lookup_no_edges (he : s.edges = []) (inp : Option Sym) : lookup s inp = none := by
  unfold lookup
  rw [he]
  cases inp <;> rfl

structure TransGood (M : Machine) (i : Nat) (limited : Bool) (ps : Option (List Crumb)) (w : World)
    (t : TransOut) : Prop where
  idle : Idle w t.w
  crumbs : ∀ s0, CrumbsLe ps s0 → w.sent ≤ s0 → CrumbsLe t.ps s0
  /-- closed at the ending: the crumb that repeated is one the delegate held before, at this position -/
  old : t.closed = true → limited = true → ∃ l, ps = some l ∧ ∃ c ∈ l, c.2.2 = w.sent
  top : ps = none → t.closed = false ∧ t.ps = none
  leaf : (M.st i).edges = [] → t = ⟨ps, w, false, none⟩

theorem transLoop_spec (h : transLoop M i limited f seen ps w = .ok t) : TransGood M i limited ps w t := by
  revert h
  fun_induction transLoop M i limited f seen ps w generalizing t with
  | case1 => nofun
  | case2 | case3 | case4 | case7 =>  -- no transition, no event
    rintro ⟨⟩
    exact ⟨Idle.refl _, fun _ h _ => h, nofun, fun h => ⟨rfl, h⟩, fun _ => rfl⟩
  | case5 =>  -- `yield machine,None`, and the delegate closes
    rename_i hlim hev _ _ _ he
    rintro ⟨⟩
    obtain ⟨hq, hcr, -, htop⟩ := emit_spec he
    exact ⟨hq.toIdle, hcr, fun _ hl => absurd hl hlim, fun hn => (nomatch (htop hn).1),
      fun he => by simp +zetaDelta [he] at hev⟩
  | case6 =>  -- `yield machine,None`, and the loop goes on
    rename_i hlim hev _ _ _ he ih
    intro h
    obtain ⟨hq, hcr, -, htop⟩ := emit_spec he
    have g := ih h
    exact ⟨hq.toIdle.trans g.idle, fun s0 hc hs => g.crumbs s0 (hcr s0 hc hs) (hq.sent ▸ hs),
      fun _ hl => absurd hl hlim, fun hn => g.top (htop hn).2, fun he => by simp +zetaDelta [he] at hev⟩
  | case8 =>  -- a transition whose crumb the state has seen
    rename_i ch hl _ _ hec _
    rintro ⟨⟩
    have hi := evalChoice_idle hec
    exact ⟨hi, fun _ h _ => h, nofun, fun h => ⟨rfl, h⟩,
      fun he => nomatch (lookup_no_edges he _).symm.trans hl⟩
  | case9 | case10 =>  -- a transition, announced
    rename_i ch hl _ _ hec _ _ _ he
    rintro ⟨⟩
    have hi := evalChoice_idle hec
    obtain ⟨hq, hcr, hcl, htop⟩ := emit_spec he
    exact ⟨hi.trans hq.toIdle, fun s0 hc hs => hcr s0 hc (hi.sent ▸ hs),
      fun hc _ => (hcl hc).imp fun l hl => ⟨hl.1, _, hl.2, hi.sent⟩, htop,
      fun he => nomatch (lookup_no_edges he _).symm.trans hl⟩

theorem innerLoop_spec (hc : ChildOK M child) {out : Nat × World × Bool}
    (h : innerLoop child i e cycle final f cur seen w = .ok out) :
    Adv w out.2.1 ∧ (CrumbsLe (some seen) w.sent → Within e w.sent → Within e out.2.1.sent)
    ∧ ∃ r, child cur (some seen) e w = .ok r
        ∧ (r.closed = false → r.target = none → out = (cur, r.w, false)) := by
  revert h
  fun_induction innerLoop child i e cycle final f cur seen w generalizing out with
  | case1 | case2 => nofun
  | case3 =>  -- the run of `cur` was closed
    rename_i r hr hcl
    rintro ⟨⟩
    have g := hc _ _ _ _ _ hr
    exact ⟨g.adv, fun hcr hw x hx => g.closedLim hcl hcr x hx (hw x hx), r, hr,
      fun h => nomatch h.symm.trans hcl⟩
  | case4 =>  -- it transits to `t`
    rename_i r hr hcl t ht ih
    intro h
    have g := hc _ _ _ _ _ hr
    obtain ⟨hadv, hw', -⟩ := ih h
    have hcl := Bool.eq_false_iff.mpr hcl
    refine ⟨g.adv.trans ((setDfa_idle _ _ _).adv.trans hadv), fun hcr _ => hw' ?_ (g.lim hcl),
      r, hr, fun _ h => nomatch h.symm.trans ht⟩
    have h1 : CrumbsLe r.ps r.w.sent := g.crumbs _ (hcr.mono g.adv.sent_le) (Int.le_refl _)
    intro l hl c hcm
    cases hl
    cases hps : r.ps with
    | none => rw [hps] at hcm; cases hcm
    | some l' => rw [hps] at hcm; exact h1 l' hps c hcm
  | case5 =>  -- it does not transit
    rename_i r hr hcl ht
    rintro ⟨⟩
    exact ⟨(hc _ _ _ _ _ hr).adv, fun _ _ => (hc _ _ _ _ _ hr).lim (Bool.eq_false_iff.mpr hcl), r, hr,
      fun _ _ => rfl⟩

/-- what the cycles of a dfa from `cycle` up to `final`, started in `w`, guarantee;
`out` is the final world, the number of passes over the sub-machine, and whether stasis ended them -/
structure CycleGood (child : Child) (i init : Nat) (e : Option Int) (final cycle : Nat) (w : World)
    (out : World × Nat × Bool) : Prop where
  adv : Adv w out.1
  within : Within e w.sent → Within e out.1.sent
  le : out.2.1 ≤ final - cycle
  exact : out.2.2 = false → out.2.1 = final - cycle
  once : out.2.2 = true → 1 ≤ out.2.1
  unchanged : final ≤ cycle → out.1 = w
  /-- if every run of the initial state takes one symbol and ends the pass, the loop takes one symbol
  per pass -/
  bytes : (∀ w0 r, child init (some [w0.crumb (some init)]) e w0 = .ok r →
      r.closed = false ∧ r.target = none ∧ r.w.sent = w0.sent + 1) →
    out.2.2 = false ∧ out.1.sent = w.sent + out.2.1

theorem cycleLoop_spec (hc : ChildOK M child)
    (h : cycleLoop M child i init e final f cycle w = .ok out) :
    CycleGood child i init e final cycle w out := by
  revert h
  fun_induction cycleLoop M child i init e final f cycle w generalizing out with
  | case1 | case2 | case3 | case5 => nofun
  | case4 =>  -- a pass ended in stasis
    rename_i hlt w0 _ w1 _ hin
    rintro ⟨⟩
    obtain ⟨hadv1, hw1, r, hr, hout⟩ := innerLoop_spec hc hin
    have h0 : Idle _ w0 := setDfa_idle _ _ _
    exact ⟨h0.adv.trans hadv1, fun hw => hw1 (CrumbsLe.singleton _ _) (h0.sent ▸ hw),
      Nat.sub_pos_of_lt hlt, nofun, fun _ => Nat.le_refl 1, fun h => absurd h (Nat.not_le.mpr hlt),
      fun hb => nomatch hout (hb _ _ hr).1 (hb _ _ hr).2.1⟩
  | case6 =>  -- a pass, then the remaining cycles
    rename_i cycle w hlt w0 _ w1 _ hin _ _ w2 k st hrec ih
    rintro ⟨⟩
    obtain ⟨hadv1, hw1, r, hr, hout⟩ := innerLoop_spec hc hin
    have h0 : Idle w w0 := setDfa_idle _ _ _
    have g := ih hrec
    have hs : final - cycle = final - (cycle + 1) + 1 := (Nat.succ_pred_eq_of_pos (Nat.sub_pos_of_lt hlt)).symm
    refine ⟨h0.adv.trans (hadv1.trans g.adv),
      fun hw => g.within (hw1 (CrumbsLe.singleton _ _) (h0.sent ▸ hw)), hs ▸ Nat.succ_le_succ g.le,
      fun h => hs ▸ congrArg (· + 1) (g.exact h), fun _ => Nat.le_add_left 1 k,
      fun h => absurd h (Nat.not_le.mpr hlt), fun hb => ?_⟩
    obtain ⟨hst', (hs2 : w2.sent = w1.sent + k)⟩ := g.bytes hb
    obtain ⟨hcl, htg, (hs1 : r.w.sent = w.sent + 1)⟩ := hb _ _ hr
    cases hout hcl htg
    exact ⟨hst', by rw [hs2, hs1, Int.add_assoc, Int.add_comm 1]; rfl⟩
  | case7 =>  -- no cycle left
    rename_i hge
    rintro ⟨⟩
    exact ⟨Adv.refl _, id, Nat.zero_le _,
      fun _ => (Nat.sub_eq_zero_of_le (Nat.le_of_not_lt hge)).symm, nofun, fun _ => rfl,
      fun _ => ⟨rfl, (Int.add_zero _).symm⟩⟩

/-- the repeat count a dfa's `repeat=` resolves to in a world (`None` is one run) -/
def repeatOf (w : World) (rep : Spec) : Nat := (resolve w rep).1.getD 1

theorem delegate_leaf (hk : ∀ init rep store, (M.st i).kind ≠ .dfa init rep store) :
    delegate M child i e f w = .ok (w, 0, false) := by
  unfold delegate
  cases hk' : (M.st i).kind with
  | dfa init rep store => exact absurd hk' (hk _ _ _)
  | _ => rfl

theorem delegate_dfa {rep : Spec} {store : Option Nat}
    (hk : (M.st i).kind = .dfa init rep store) (h : delegate M child i e f w = .ok out) :
    ∃ w1 w2, Idle w w1 ∧ cycleLoop M child i init e (repeatOf w rep) f 0 w1 = .ok (w2, out.2)
      ∧ Idle w2 out.1 := by
  unfold delegate at h
  rw [hk] at h
  simp only at h
  generalize hcy : cycleLoop _ _ _ _ _ _ _ _ _ = x at h
  rcases x with _ | ⟨w2, k, st⟩
  · cases h
  cases store <;> cases h <;> refine ⟨_, w2, (resolve_idle w rep).trans (setDfa_idle _ _ _), hcy, ?_⟩
  · exact Idle.refl w2
  · exact setField_idle _ _ _

theorem delegate_spec (hc : ChildOK M child)
    (h : delegate M child i e f w = .ok out) :
    Adv w out.1 ∧ (Within e w.sent → Within e out.1.sent)
    ∧ (∀ init rep store, (M.st i).kind = .dfa init rep store →
        out.2.1 ≤ repeatOf w rep ∧ (out.2.2 = false → out.2.1 = repeatOf w rep)
        ∧ (out.2.2 = true → 1 ≤ out.2.1)
        ∧ (repeatOf w rep = 0 → out.2.1 = 0 ∧ out.1.sent = w.sent ∧ out.1.total = w.total)) := by
  cases hk : (M.st i).kind with
  | dfa init rep store =>
    obtain ⟨w1, w2, h1, hcy, hid⟩ := delegate_dfa hk h
    have g := cycleLoop_spec hc hcy
    refine ⟨h1.adv.trans (g.adv.trans hid.adv), fun hw => ?_, ?_⟩
    · rw [hid.sent]; exact g.within (h1.sent ▸ hw)
    · rintro _ _ _ ⟨⟩
      refine ⟨g.le, g.exact, g.once, fun hz => ?_⟩
      cases g.unchanged (Nat.le_of_eq hz)
      have hi := h1.trans hid
      exact ⟨Nat.le_zero.mp (hz ▸ g.le), hi.sent, hi.total⟩
  | _ =>
    rw [delegate_leaf (fun _ _ _ hk' => by rw [hk] at hk'; cases hk')] at h
    cases h
    exact ⟨Adv.refl w, id, fun _ _ _ hk' => nomatch hk'⟩

/-- `limited` is Python's `ending is not None and sent >= ending`; a closed run skips the final `assert` -/
theorem runState_ok (h : runState M f i ps e w = .ok r) :
    ∃ f', f = f' + 1 ∧ ∃ ps1 w1 c, acceptLoop (M.st i) f' [] ps w = .ok (ps1, w1, c) ∧
      (c = true ∧ r = ⟨w1, ps1, true, none⟩
        ∨ c = false ∧ ∃ lim w3 w4 k st limited t,
            resolve (process (M.st i) w1) (M.st i).limit = (lim, w3) ∧
            delegate M (runState M f') i (shrink e w3.sent lim) f' w3 = .ok (w4, k, st) ∧
            (limited = false → Within (shrink e w3.sent lim) w4.sent) ∧
            transLoop M i limited f' [] ps1 w4 = .ok t ∧
            (t.closed = true ∧ r = ⟨t.w, t.ps, true, none⟩
              ∨ t.closed = false ∧ Within (shrink e w3.sent lim) t.w.sent
                ∧ r = ⟨t.w, t.ps, false, t.target⟩)) := by
  have hlim : ∀ (e' : Option Int) (p : Int),
      (match e' with | some x => decide (x ≤ p) | none => false) = false → Within e' p := by
    rintro _ p hl x rfl
    exact Int.le_of_lt (Int.not_le.mp (of_decide_eq_false hl))
  revert h
  fun_cases runState M f i ps e w with
  | case1 | case2 | case4 | case5 | case7 => nofun
  | case3 => rintro ⟨⟩; exact ⟨_, rfl, _, _, _, ‹_›, .inl ⟨rfl, rfl⟩⟩  -- closed while waiting
  | case6 =>  -- closed in the transition loop
    rename_i hcl _ _ hres _ _ hdel htr hacc
    rintro ⟨⟩
    exact ⟨_, rfl, _, _, _, hacc, .inr ⟨rfl, _, _, _, _, _, _, _, hres, hdel, hlim _ _, htr, .inl ⟨hcl, rfl⟩⟩⟩
  | case8 =>  -- the final assertion holds
    rename_i hcl _ hx _ _ hres _ _ he' hdel htr hacc
    rintro ⟨⟩
    exact ⟨_, rfl, _, _, _, hacc, .inr ⟨rfl, _, _, _, _, _, _, _, hres, hdel, hlim _ _, htr,
      .inr ⟨Bool.eq_false_iff.mpr hcl, fun y hy => Int.not_lt.mp (Option.some.inj (he'.symm.trans hy) ▸ hx), rfl⟩⟩⟩
  | case9 =>  -- no ending
    rename_i hcl _ _ hres _ _ he' hdel htr hacc
    rintro ⟨⟩
    exact ⟨_, rfl, _, _, _, hacc, .inr ⟨rfl, _, _, _, _, _, _, _, hres, hdel, hlim _ _, htr,
      .inr ⟨Bool.eq_false_iff.mpr hcl, fun y hy => (nomatch he'.symm.trans hy), rfl⟩⟩⟩

/-- **every run of every state, at every depth, is `Good`** -/
theorem runState_good (M : Machine) (f : Nat) : ChildOK M (runState M f) := by
  induction f with
  | zero => intro i ps e w r h; cases h
  | succ f ih =>
    intro i ps e w r h
    obtain ⟨_, ⟨⟩, ps1, w1, c, hacc, h⟩ := runState_ok h
    obtain ⟨hq, hcr1, htop1, -, hst1⟩ := acceptLoop_spec hacc
    rcases h with ⟨rfl, rfl⟩ | ⟨rfl, lim, w3, w4, k, st, limited, t, hres, hdel, hlim, htr, h⟩
    · exact .of_fin (p := w.sent) hq.toIdle.adv (fun s0 hc hs => hcr1 s0 hc (hq.sent ▸ hs))
        (fun hn => by obtain ⟨l, hl, -⟩ := hst1 rfl; rw [hn] at hl; cases hl) (by omega)
        (.inr ⟨rfl, fun _ => Int.le_of_eq hq.sent⟩)
    · have hp := process_adv (M.st i) w1
      have hri := resolve_idle (process (M.st i) w1) (M.st i).limit
      have hrv := resolve_congr (hp.2.2.1.trans hq.data) (hp.2.2.2.trans hq.tape) (M.st i).limit
      rw [hres] at hri hrv
      replace hrv : lim = _ := hrv
      have hs3 : w3.sent ≤ w.sent + (M.st i).own := by
        rw [hri.sent, ← hq.sent]; exact hp.2.1
      obtain ⟨hidle, hcrt, hclosed, htopt, -⟩ := transLoop_spec htr
      have hadv4 : Adv w w4 :=
        hq.toIdle.adv.trans (hp.1.trans (hri.adv.trans (delegate_spec ih hdel).1))
      have hadvt : Adv w t.w := hadv4.trans hidle.adv
      have hcr : ∀ s0, CrumbsLe ps s0 → t.w.sent ≤ s0 → CrumbsLe t.ps s0 := fun s0 hc hs =>
        have h4 : w4.sent ≤ s0 := hidle.sent ▸ hs
        hcrt s0 (hcr1 s0 hc (Int.le_trans hadv4.sent_le h4)) h4
      rcases h with ⟨hcl, rfl⟩ | ⟨-, hw, rfl⟩
      · refine .of_fin hadvt hcr (fun hn => ?_) hs3 ?_
        · rw [(htopt (htop1 hn)).1] at hcl; cases hcl
        · cases limited with
          | false => exact .inl (hrv ▸ hidle.sent ▸ hlim rfl)
          | true =>
            -- the crumb that repeated is one the delegate held on entry: nothing was consumed
            refine .inr ⟨rfl, fun hc => ?_⟩
            obtain ⟨l, hl, c, hcm, hcs⟩ := hclosed hcl rfl
            rw [hidle.sent, ← hcs]
            exact hcr1 _ hc (Int.le_refl _) l hl c hcm
      · exact .of_fin hadvt hcr (fun _ => rfl) hs3 (.inl (hrv ▸ hw))

/-- the sub-machine state of `octets` / `octets_drop` / `octets_struct` -/
def State.isByte (s : State) : Prop :=
  (s.kind = .input ∨ s.kind = .drop) ∧ s.term = true ∧ s.limit = .none ∧ s.edges = []

theorem process_byte {s : State} (hk : s.kind = .input ∨ s.kind = .drop) {w : World}
    (h : accepts s w = true) : (process s w).sent = w.sent + 1 := by
  unfold accepts World.peek ASrc.peek at h
  unfold process World.advance ASrc.next
  cases hr : w.src.rest with
  | nil => rcases hk with hk | hk <;> rw [hk, hr] at h <;> cases h
  | cons x r => rcases hk with hk | hk <;> rw [hk] <;> simp [World.sent]

/-- `some [w.crumb tgt]` is the `seen` set a delegate starts a cycle with -/
theorem run_byte {j : Nat} {tgt : Option Nat} (hb : (M.st j).isByte) (ht : tgt ≠ none)
    (h : runState M f j (some [w.crumb tgt]) e w = .ok r) :
    r.closed = false ∧ r.target = none ∧ r.w.sent = w.sent + 1 := by
  obtain ⟨f', rfl, ps1, w1, c, hacc, h⟩ := runState_ok h
  obtain ⟨hq, -, -, hacc', hst⟩ := acceptLoop_spec hacc
  rcases h with ⟨rfl, -⟩ | ⟨rfl, lim, w3, w4, k, st, limited, t', hres, hdel, -, htr, h⟩
  · -- the delegate's only crumb has a target
    obtain ⟨_, ⟨⟩, c, hc, hcn, -⟩ := hst rfl
    cases List.mem_singleton.mp hc
    exact absurd hcn ht
  · -- no limit of its own, no sub-machine, no edges
    rw [hb.2.2.1] at hres
    cases hres
    rw [delegate_leaf fun _ _ _ h => by rcases hb.1 with hk | hk <;> rw [hk] at h <;> cases h] at hdel
    cases hdel
    cases (transLoop_spec htr).leaf hb.2.2.2
    rcases h with ⟨h, -⟩ | ⟨-, -, rfl⟩
    · cases h
    · exact ⟨rfl, rfl, by rw [← hq.sent]; exact process_byte hb.1 (hacc' rfl)⟩

theorem delegate_bytes {f0 j : Nat} {rep : Spec} {store : Option Nat}
    (hk : (M.st i).kind = .dfa j rep store) (hb : (M.st j).isByte)
    (h : delegate M (runState M f0) i e f w = .ok out) : out.1.sent = w.sent + repeatOf w rep := by
  obtain ⟨w1, w2, h1, hcy, hid⟩ := delegate_dfa hk h
  have g := cycleLoop_spec (runState_good M f0) hcy
  obtain ⟨hst, (hs : w2.sent = w1.sent + (out.2.1 : Nat))⟩ :=
    g.bytes fun _ _ hr => run_byte (tgt := some j) hb nofun hr
  have hn : out.2.1 = repeatOf w rep := g.exact hst
  rw [hid.sent, hs, hn, h1.sent]

end Cpppo.Engine
