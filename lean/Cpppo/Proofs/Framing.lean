import Cpppo.Model.Framing
import Cpppo.Proofs.Bytes
/-!
Lemmas for C02 (framing).  The machine's end-of-frame test `complete` is the link to the specification:
`split1` succeeds exactly on `m ++ rest` with `complete m`.
-/
namespace Cpppo.Framing
open Cpppo Cpppo.Bytes

theorem field_append_left (x rest : Bytes) (n : Nat) (h : x.length = n) : field (x ++ rest) 0 n = x :=
  List.take_left' h

theorem field_append_right (x rest : Bytes) (off n : Nat) (h : x.length ≤ off) :
    field (x ++ rest) off n = field rest (off - x.length) n := by
  unfold field
  rw [List.drop_append, List.drop_of_length_le h, List.nil_append]

/-- once the header is in, the declared length no longer changes -/
theorem lengthField_append (bs more : Bytes) (h : headerSize ≤ bs.length) :
    lengthField (bs ++ more) = lengthField bs := by
  have h4 : 2 + 2 ≤ bs.length := Nat.le_trans (by decide) h
  unfold lengthField field lengthOffset lengthWidth
  rw [List.drop_append_of_le_length (Nat.le_trans (Nat.le_add_right _ _) h4),
    List.take_append_of_le_length (by rw [List.length_drop]; exact Nat.le_sub_of_add_le' h4)]

theorem encodeHeader_length (f : RawFrame) (h : f.WF) : (encodeHeader f).length = headerSize := by
  simp [encodeHeader, le_length, h.2.2.2.2.1, headerSize]

theorem encodeRaw_length (f : RawFrame) (h : f.WF) : (encodeRaw f).length = f.size := by
  simp [encodeRaw, RawFrame.size, encodeHeader_length f h, h.2.2.2.2.2.2]

/-- each field is read back from its own block of the encoding: skip the blocks before it, take it whole -/
theorem parseFrame_encode (f : RawFrame) (h : f.WF) : parseFrame (encodeRaw f) = f := by
  obtain ⟨hc, hl, hs, hst, hctx, ho, hp⟩ := h
  have hpay : field f.payload 0 f.length = f.payload := List.take_of_length_le (Nat.le_of_eq hp)
  simp only [parseFrame, lengthField, lengthOffset, lengthWidth, headerSize, encodeRaw, encodeHeader,
    List.append_assoc, field_append_right, field_append_left, le_length, leNat_le, hc, hl, hs, hst, hctx, ho, hpay,
    Nat.reduceSub, Nat.reduceLeDiff, Nat.reducePow, Nat.le_refl]

theorem parseFrame_length (bs : Bytes) : (parseFrame bs).length = lengthField bs := rfl

theorem complete_iff (m : Bytes) : complete m = true ↔ m.length = headerSize + lengthField m := by
  rw [complete, Bool.and_eq_true, decide_eq_true_iff, beq_iff_eq]
  exact ⟨And.right, fun h => ⟨h ▸ Nat.le_add_right _ _, h⟩⟩

theorem complete_encode (f : RawFrame) (h : f.WF) : complete (encodeRaw f) = true := by
  rw [complete_iff, encodeRaw_length f h, ← parseFrame_length, parseFrame_encode f h]
  rfl

theorem split1_eq_none (bs : Bytes) : split1 bs = none ↔ bs.length < headerSize + lengthField bs := by
  fun_cases split1 bs <;> simp <;> omega

theorem split1_complete_append (m rest : Bytes) (h : complete m = true) :
    split1 (m ++ rest) = some (parseFrame m, rest) := by
  rw [complete_iff] at h
  have hle : m.length ≤ (m ++ rest).length := List.length_append ▸ Nat.le_add_right _ _
  have hh : headerSize ≤ m.length := h ▸ Nat.le_add_right _ _
  rw [split1, lengthField_append m rest hh, ← h, if_pos ⟨Nat.le_trans hh hle, hle⟩, List.take_left, List.drop_left]

theorem split1_cases (bs : Bytes) : split1 bs = none ∨ ∃ m rest, complete m = true ∧ bs = m ++ rest := by
  by_cases hn : headerSize + lengthField bs ≤ bs.length
  · obtain ⟨m, r, rfl, hm⟩ : ∃ m r, bs = m ++ r ∧ m.length = headerSize + lengthField bs :=
      ⟨_, _, (List.take_append_drop _ _).symm, List.length_take_of_le hn⟩
    rw [lengthField_append m r (hm ▸ Nat.le_add_right _ _), ← complete_iff] at hm
    exact .inr ⟨m, r, hm, rfl⟩
  · exact .inl ((split1_eq_none bs).mpr (Nat.lt_of_not_le hn))

theorem length_lt_append_complete {m : Bytes} (rest : Bytes) (h : complete m = true) :
    rest.length < (m ++ rest).length := by
  rw [List.length_append, (complete_iff m).mp h]
  exact Nat.lt_add_of_pos_left (Nat.add_pos_left (by decide) _)

theorem split1_prefix_complete (m p : Bytes) (hm : complete m = true) (hp : p <+: m) (hlt : p.length < m.length) :
    split1 p = none := by
  obtain ⟨t, rfl⟩ := hp
  -- once `p` holds the header, `p` and `p ++ t` declare the same length
  have hL := lengthField_append p t
  rw [complete_iff] at hm
  rw [split1_eq_none]
  omega

theorem split1_nil : split1 [] = none := by decide

theorem framesFuel_unfold (n : Nat) (bs : Bytes) (h : bs.length ≤ n) :
    framesFuel n bs = match split1 bs with
      | none => ([], bs)
      | some (f, rest) => (f :: (frames rest).1, (frames rest).2) := by
  induction n using Nat.strongRecOn generalizing bs with
  | _ n ih =>
    cases n with
    | zero => obtain rfl := List.eq_nil_of_length_eq_zero (Nat.le_zero.mp h); rfl
    | succ n =>
      rw [framesFuel.eq_2]
      rcases split1_cases bs with hs | ⟨m, rest, hm, rfl⟩
      · rw [hs]
      · have hle : rest.length ≤ n :=
          Nat.le_of_lt_succ (Nat.lt_of_lt_of_le (length_lt_append_complete rest hm) h)
        simp only [split1_complete_append m rest hm, frames, ih n (Nat.lt_succ_self n) rest hle,
          ih rest.length (Nat.lt_succ_of_le hle) rest (Nat.le_refl _)]

theorem frames_unfold (bs : Bytes) :
    frames bs = match split1 bs with
      | none => ([], bs)
      | some (f, rest) => (f :: (frames rest).1, (frames rest).2) :=
  framesFuel_unfold bs.length bs (Nat.le_refl _)

theorem frames_of_none (bs : Bytes) (h : split1 bs = none) : frames bs = ([], bs) := by
  rw [frames_unfold, h]

theorem frames_complete_append (m rest : Bytes) (h : complete m = true) :
    frames (m ++ rest) = (parseFrame m :: (frames rest).1, (frames rest).2) := by
  rw [frames_unfold, split1_complete_append m rest h]

/-- **A well-formed frame at the front of a stream is delivered with identical content; what follows it is
framed as if it stood alone.** -/
theorem frames_cons (f : RawFrame) (h : f.WF) (rest : Bytes) :
    frames (encodeRaw f ++ rest) = (f :: (frames rest).1, (frames rest).2) := by
  rw [frames_complete_append _ rest (complete_encode f h), parseFrame_encode f h]

theorem frames_induct {P : Bytes → Prop}
    (hnone : ∀ bs, split1 bs = none → P bs)
    (hsome : ∀ m rest, complete m = true → P rest → P (m ++ rest)) : ∀ bs, P bs := by
  intro bs
  induction hn : bs.length using Nat.strongRecOn generalizing bs with
  | _ n ih =>
    rcases split1_cases bs with hs | ⟨m, rest, hm, rfl⟩
    · exact hnone bs hs
    · exact hsome m rest hm (ih rest.length (hn ▸ length_lt_append_complete rest hm) rest rfl)

theorem frames_residue (bs : Bytes) : split1 (frames bs).2 = none := by
  induction bs using frames_induct with
  | hnone bs h => rw [frames_of_none bs h]; exact h
  | hsome m rest h ih => rw [frames_complete_append m rest h]; exact ih

/-- complete frames of `a` are complete frames of `a ++ b`; the remainder of `a` is carried over -/
theorem frames_append (a b : Bytes) :
    frames (a ++ b) = ((frames a).1 ++ (frames ((frames a).2 ++ b)).1, (frames ((frames a).2 ++ b)).2) := by
  induction a using frames_induct with
  | hnone a h => rw [frames_of_none a h]; rfl
  | hsome m rest h ih =>
    rw [List.append_assoc, frames_complete_append m _ h, frames_complete_append m _ h, ih]
    rfl

theorem encodeAll_cons (f : RawFrame) (fs : List RawFrame) :
    encodeAll (f :: fs) = encodeRaw f ++ encodeAll fs := rfl

theorem encodeAll_append (a b : List RawFrame) : encodeAll (a ++ b) = encodeAll a ++ encodeAll b := by
  simp [encodeAll]

theorem frames_encodeAll_append (fs : List RawFrame) (h : ∀ f ∈ fs, f.WF) (rest : Bytes) :
    frames (encodeAll fs ++ rest) = (fs ++ (frames rest).1, (frames rest).2) := by
  induction fs with
  | nil => rfl
  | cons f fs ih =>
    obtain ⟨hf, hfs⟩ := List.forall_mem_cons.mp h
    rw [encodeAll_cons, List.append_assoc, frames_cons f hf, ih hfs]
    rfl

/-- the machine, started between frames or inside one, delivers exactly the frames of the specification -/
theorem mrun_eq_frames (acc bs : Bytes) (h : split1 acc = none) : mrun acc bs = frames (acc ++ bs) := by
  induction bs generalizing acc with
  | nil => rw [List.append_nil, frames_of_none acc h]; rfl
  | cons b bs ih =>
    rw [List.append_cons]
    simp only [mrun, mstep]
    cases hc : complete (acc ++ [b]) with
    | true =>
      have h0 : mrun [] bs = frames bs := ih [] split1_nil
      rw [frames_complete_append _ bs hc, ← h0]; rfl
    | false =>
      -- a byte that does not complete the frame in progress leaves it incomplete
      refine ih _ ?_
      have hL := lengthField_append acc [b]
      rw [← Bool.not_eq_true, complete_iff] at hc
      rw [split1_eq_none] at h ⊢
      rw [List.length_append, List.length_singleton] at hc ⊢
      omega

section
variable {S R : Type} (step : S → RawFrame → S × Option R × Bool)

theorem serveFrames_append (s : S) (a b : List RawFrame) :
    serveFrames step s (a ++ b) =
      let t := serveFrames step s a
      if t.2.2 then
        let u := serveFrames step t.1 b
        (u.1, t.2.1 ++ u.2.1, u.2.2)
      else t := by
  induction a generalizing s with
  | nil => rfl
  | cons f a ih =>
    simp only [List.cons_append, serveFrames]
    cases (step s f).2.2 with
    | true => simp only [if_true, ih]; split <;> simp
    | false => rfl

theorem foldl_recv_dead (c : Conn S R) (h : c.alive = false) (cs : List Bytes) :
    cs.foldl (Conn.recv step) c = c := by
  induction cs with
  | nil => rfl
  | cons x cs ih => simp only [List.foldl_cons, Conn.recv, h, Bool.false_eq_true, if_false, ih]

/-- the receive loop hands the processor what the machine delivers, block after block, while it is alive -/
theorem foldl_recv (c : Conn S R) (halive : c.alive = true) (cs : List Bytes) :
    let r := mrunAll c.acc cs
    let t := serveFrames step c.st r.1
    let c' := cs.foldl (Conn.recv step) c
    c'.st = t.1 ∧ c'.replies = c.replies ++ t.2.1 ∧ c'.alive = t.2.2 ∧ (t.2.2 = true → c'.acc = r.2) := by
  induction cs generalizing c with
  | nil => exact ⟨rfl, (List.append_nil _).symm, halive, fun _ => rfl⟩
  | cons x cs ih =>
    -- does the session survive the frames of this block?
    cases hal : (serveFrames step c.st (mrun c.acc x).1).2.2 with
    | false =>
      simp only [List.foldl_cons, mrunAll, serveFrames_append, Conn.recv, halive, if_true, hal, Bool.false_eq_true,
        if_false, foldl_recv_dead step ⟨_, _, _, false⟩ rfl cs, false_implies, and_true]
    | true =>
      simp only [List.foldl_cons, mrunAll, serveFrames_append, Conn.recv, halive, if_true, hal, ← List.append_assoc]
      exact ih ⟨_, _, _, true⟩ rfl

theorem serveStream_eq (close : S → S) (s : S) (bs : Bytes) :
    serveStream step close s bs = finish close (serveFrames step s (frames bs).1) (frames bs).2 := rfl

theorem finish_of_ne_nil (close : S → S) (t : S × List R × Bool) (p : Bytes) (hp : p ≠ []) :
    finish close t p = (t.1, t.2.1, if t.2.2 then Ending.aborted p.length else Ending.stopped) := by
  rw [finish, if_neg (mt List.isEmpty_iff.mp hp)]
  cases t.2.2 <;> rfl

theorem finish_congr (close : S → S) (t : S × List R × Bool) (p q : Bytes) (h : t.2.2 = true → p = q) :
    finish close t p = finish close t q := by
  unfold finish
  cases ht : t.2.2 with
  | true => rw [h ht]
  | false => rfl

theorem trace_getElem (c : Conn S R) (cs : List Bytes) (i : Nat) (h : i < cs.length) :
    (Conn.trace step c cs)[i]? = some ((cs.take (i + 1)).foldl (Conn.recv step) c) := by
  induction cs generalizing c i with
  | nil => simp at h
  | cons x cs ih =>
    cases i with
    | zero => simp [Conn.trace]
    | succ i => simpa [Conn.trace] using ih _ i (by simpa using h)

theorem trace_length (c : Conn S R) (cs : List Bytes) : (Conn.trace step c cs).length = cs.length := by
  induction cs generalizing c with
  | nil => rfl
  | cons x cs ih => simp [Conn.trace, ih]

end

def sizeAll (fs : List RawFrame) : Nat := (fs.map RawFrame.size).sum

theorem encodeAll_length (fs : List RawFrame) (h : ∀ f ∈ fs, f.WF) : (encodeAll fs).length = sizeAll fs := by
  induction fs with
  | nil => rfl
  | cons f fs ih =>
    obtain ⟨hf, hfs⟩ := List.forall_mem_cons.mp h
    rw [encodeAll_cons, List.length_append, encodeRaw_length f hf, ih hfs]
    rfl

-- branches of `nComplete`: no frame left / the first frame ends within `k` / it does not
theorem nComplete_le (fs : List RawFrame) (k : Nat) : nComplete fs k ≤ fs.length := by
  fun_induction nComplete fs k with
  | case1 => exact Nat.le_refl 0
  | case2 f fs k h ih => exact Nat.succ_le_succ ih
  | case3 => exact Nat.zero_le _

/-- the complete frames in the first `k` bytes of a stream of frames, and what is left over -/
theorem frames_take (fs : List RawFrame) (h : ∀ f ∈ fs, f.WF) (k : Nat) :
    frames ((encodeAll fs).take k) =
      (fs.take (nComplete fs k),
       (encodeAll (fs.drop (nComplete fs k))).take (k - sizeAll (fs.take (nComplete fs k)))) := by
  fun_induction nComplete fs k with
  | case1 => simp [encodeAll, frames_of_none _ split1_nil]
  | case2 f fs k hk ih => -- `f` ends within `k`
    obtain ⟨hf, hfs⟩ := List.forall_mem_cons.mp h
    have hlen := encodeRaw_length f hf
    rw [encodeAll_cons, List.take_append, List.take_of_length_le (hlen ▸ hk), hlen,
      frames_cons f hf, ih hfs]
    simp only [List.take_succ_cons, List.drop_succ_cons, sizeAll, List.map_cons, List.sum_cons, Nat.sub_add_eq]
  | case3 f fs k hk => -- `k` cuts `f` short
    have hf := h f List.mem_cons_self
    have hlt : k < (encodeRaw f).length := encodeRaw_length f hf ▸ Nat.lt_of_not_le hk
    have hp : split1 ((encodeAll (f :: fs)).take k) = none := by
      rw [encodeAll_cons, List.take_append_of_le_length (Nat.le_of_lt hlt)]
      exact split1_prefix_complete _ _ (complete_encode f hf) (List.take_prefix _ _)
        (Nat.lt_of_le_of_lt (List.length_take_le _ _) hlt)
    rw [frames_of_none _ hp]
    rfl

theorem nComplete_iff (fs : List RawFrame) (k i : Nat) :
    i < nComplete fs k ↔ i < fs.length ∧ endOffset fs i ≤ k := by
  fun_induction nComplete fs k generalizing i with
  | case1 => simp
  | case2 f fs k hk ih => -- `f` ends within `k`
    cases i with
    | zero => simp [endOffset, hk]
    | succ i =>
      rw [Nat.succ_lt_succ_iff, ih, endOffset, List.length_cons, Nat.succ_lt_succ_iff, Nat.le_sub_iff_add_le' hk]
  | case3 f fs k hk => cases i <;> simp [endOffset] <;> omega -- `k` cuts `f` short

end Cpppo.Framing
