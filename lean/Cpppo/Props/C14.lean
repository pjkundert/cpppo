import Cpppo.Proofs.Glue
import Cpppo.Model.IopClient

/-!
# C14 — Independent Logix clients interoperate with the simulator

Three models meet here:

* `Cpppo.Ref`  — the reference codec of the *client* side, written from the CIP / EtherNet/IP layout tables
  (it shares no code with the library; its service codes, segment and item type bytes are literals);
* `Cpppo.Srv`  — the simulator from a complete frame to the reply frame (`enip_machine`, `CIP`, `CPF`,
  `UCMM.request`, `Connection_Manager.request / forward_open / forward_close`, the object parsers, the reply
  `produce`), its constants extracted from the live library;
* `Cpppo.Logix.exec` — the tag-serving core (C03–C07), whose replies are the array model's values.

PARTIAL (see `notes/C14.md`): the theorems are about these models.  That pylogix sends what the reference
encoder would, reads replies the way the reference decoder does, and that the socket layer delivers frames
whole, is *observed* on every run by the correspondence, not proved.
-/
namespace Cpppo.Interop
open Cpppo Cpppo.Logix Cpppo.Fields

/-! ## the tables of the library are the tables of the specification -/

/-- the constants the server model takes from the live library equal the literals of the reference codec:
a change of a service code, item id, segment type byte or header field in the source breaks this (and the
round-trip proofs that unfold them) -/
theorem tables_agree :
    Generated.svcReadTag = 0x4C ∧ Generated.svcReadFrag = 0x52 ∧ Generated.svcWriteTag = 0x4D
    ∧ Generated.svcWriteFrag = 0x53 ∧ Generated.svcMultiple = 0x0A
    ∧ Generated.iopSvcFwdOpen = 0x54 ∧ Generated.iopSvcFwdOpenLarge = 0x5B ∧ Generated.iopSvcFwdClose = 0x4E
    ∧ Generated.iopUnconnectedSend = 0x52 ∧ Generated.iopCmClass = 6 ∧ Generated.routerClass = 2
    ∧ Generated.iopCmdRegister = 0x65 ∧ Generated.iopCmdUnregister = 0x66 ∧ Generated.iopCmdSendData = [0x6F, 0x70]
    ∧ Generated.iopCpfConnectionId = 0xA1 ∧ Generated.iopCpfConnectionData = 0xB1 ∧ Generated.iopCpfUnconnected = 0xB2
    ∧ Generated.iopSegSymbolic = 0x91 ∧ Generated.iopSegClass = 0x20 ∧ Generated.iopSegInstance = 0x24
    ∧ Generated.iopSegAttribute = 0x30 ∧ Generated.iopSegElement = 0x28 ∧ Generated.iopSegConnection = 0x2C
    ∧ Generated.iopHeaderFields = [2, 2, 4, 4, 8, 4] := by decide

/-! ## round trips of the reference codec against the server's parsers / producers -/

/-- **EPATH**: 8/16-bit class / instance / attribute, 8/16/32-bit element and ANSI symbolic segments (with
pad) written by the reference encoder are read back by the server, which leaves the rest of the buffer alone -/
theorem epath_round_trip (p : Path) (e rest : Bytes) (h : Ref.encEpath p = some e) :
    ∃ segs, Srv.parseEpath false (e ++ rest) = some (segs, rest) ∧ Srv.toPath segs = p :=
  parseEpath_encEpath rest h

/-- **Requests**: Read Tag, Read Tag Fragmented, Write Tag, Write Tag Fragmented and Multiple Service Packets
(count, offset table, members) -/
theorem request_round_trip (r : Req) (b : Bytes) (h : Ref.encReq r = some b) (hw : WFReq r = true) :
    Srv.parseCip b = some r :=
  parseCip_encReq h hw

/-- **Replies**: reply service, status, extended status, CIP type and elements -/
theorem reply_round_trip (r : Reply) (bs : Bytes) (h : encodeReply r = some bs) (hok : ReplyOk r) :
    Ref.decReply bs = some r :=
  decReply_encodeReply h hok

/-- **Encapsulation frames**, client to server and server to client -/
theorem frame_round_trip (h : Ref.Hdr) (payload : Bytes) (hok : h.ok = true) (hl : payload.length < 65536) :
    Srv.parseEnip (Ref.encFrame h payload) =
      some { command := h.command, session := h.session, status := h.status, context := h.context,
             options := h.options, input := payload }
    ∧ Ref.decFrame (Srv.produceEnip { command := h.command, session := h.session, status := h.status,
                                      context := h.context, options := h.options, input := payload })
      = some (h, payload) := by
  refine ⟨parseEnip_encFrame hok hl, ?_⟩
  simp only [Ref.Hdr.ok, Bool.and_eq_true, decide_eq_true_eq] at hok
  obtain ⟨⟨⟨⟨⟨h1, h2⟩, h3⟩, h4⟩, _⟩, h6⟩ := hok
  exact decFrame_produceEnip ⟨h1, h2, h3, h4, h6, hl⟩

/-- the elements a reply carries survive the wire whenever each of them does; canonical stored elements of
the integer, BOOL and string types always do -/
theorem values_round_trip (t : CipType) (vs : List Val) (h : ∀ v ∈ vs, wireOk t v = true) : ValsOk t vs :=
  valsOk_of_wireOk h

theorem stored_values_survive (t : Tag) (hwf : t.WF) (hf : t.ty ≠ .real ∧ t.ty ≠ .lreal) : tagWireOk t = true :=
  tagWireOk_of_wf hwf hf

/-- **the reference encoder emits bytes**: every element of a frame it produces is below 256 (so the
round trips above are statements about byte strings, not about lists of arbitrary naturals) -/
theorem encoder_emits_bytes (c : Ref.Ctx) (m : Ref.Msg) (fr : Bytes) (hc : CtxOk c = true)
    (h : Ref.encMsg c m = some fr) : fr.wf = true :=
  encMsg_wf c m fr hc h

/-! ## end to end: reference encoder → server → reference decoder -/

/-- **`end_to_end`.**  A Read/Write Tag [Fragmented] request written by the reference encoder — bare in a
SendRRData frame, or inside an Unconnected Send to the Connection Manager with any priority, ticks and route
path — is executed by the simulator exactly as `exec` (the array model of C03–C05) prescribes, the session
continues, and the reply frame is accepted by the reference decoder, which recovers *the very reply* of the
array model: service, status, extended status, the tag's CIP type and the elements.

Hypotheses (all decidable): the session handle / sender context are in range; write data are whole elements
of a known type; the request is not addressed to the Connection Manager object; the device has its Message
Router, is well-formed (C05 invariant) and its elements survive the wire (automatic for every type but
REAL / LREAL, `stored_values_survive`); the reply fits one frame. -/
theorem end_to_end (st : Srv.St) (rnd : Srv.Rnd) (c : Ref.Ctx) (t : Ref.Transport) (timeout : Nat)
    (s : Simple) (fr : Bytes) (hun : Unconnected t = true) (hc : CtxOk c = true)
    (henc : Ref.encMsg c (.request t timeout (.simple s)) = some fr)
    (hs : isTagSvc s = true) (hw : WFSimple s = true) (hcm : notCM st.dev (.simple s) = true)
    (hro : hasRouter st.dev = true) (hwf : st.dev.WF) (hwire : devWireOk st.dev = true)
    (hsize : ∀ rep, encodeReply (execSimple st.dev s).2 = some rep → rep.length < 65000) :
    ∃ out, Srv.serve st rnd fr = ({ st with dev := (execSimple st.dev s).1 }, .reply out)
      ∧ Ref.decReplyMsg out = some (c.hdr 0x6F, .cip none 0 timeout (.tag (execSimple st.dev s).2)) := by
  obtain ⟨_, rep, hrep⟩ := execSimple_preserves_wf st.dev hwf s
  exact request_end_to_end st rnd hun hc henc hw hcm hro hrep hrep
    (execSimple_replyOk hs hwire) (isTagSvc_svc st.dev hs) (hsize rep hrep)

/-- **The decoded values are the stored values** (composition with C03 `read_returns_stored`): a valid Read
Tag of `n` elements at element `e` of a vector tag is answered, through encoder, server and decoder, with the
tag's own type and the stored elements `e, e+1, …` (as many as fit the reply; status 6 if more remain). -/
theorem end_to_end_read (st : Srv.St) (rnd : Srv.Rnd) (c : Ref.Ctx) (t : Ref.Transport) (timeout : Nat)
    (p : Path) (n : Nat) (fr : Bytes) (hun : Unconnected t = true) (hc : CtxOk c = true)
    (henc : Ref.encMsg c (.request t timeout (.simple (.readTag p n))) = some fr)
    (hcm : notCM st.dev (.simple (.readTag p n)) = true)
    (hro : hasRouter st.dev = true) (hwf : st.dev.WF) (hwire : devWireOk st.dev = true)
    (ci ii ai : Nat) (tag : Tag)
    (hr : resolveTag st.dev ((routeTarget st.dev router p).getD router) p = some (ci, ii, ai, tag))
    (hv : tag.Vector) (hsz : 0 < tag.ty.size) (hfit : resolveElement p + n ≤ tag.vals.length) (hn : 0 < n)
    (hsize : ∀ rep, encodeReply (execSimple st.dev (.readTag p n)).2 = some rep → rep.length < 65000) :
    ∃ out, Srv.serve st rnd fr = (st, .reply out)
      ∧ Ref.decReplyMsg out = some (c.hdr 0x6F, .cip none 0 timeout (.tag
          { svc := 0xCC
            status := if n ≤ fragCount st.dev.maxBytes tag.ty.size then 0 else 6
            ty := some tag.ty
            vals := (tag.vals.drop (resolveElement p)).take (min n (fragCount st.dev.maxBytes tag.ty.size)) })) := by
  obtain ⟨out, h1, h2⟩ := end_to_end st rnd c t timeout (.readTag p n) fr hun hc henc rfl rfl hcm hro hwf hwire hsize
  have hx : execSimple st.dev (.readTag p n) = _ :=
    read_returns_stored st.dev _ svcRdTag false p n 0 ci ii ai tag hr hv hsz 0 (by simp) hfit hn
  rw [hx] at h1 h2
  exact ⟨out, by simpa using h1, by simpa [svcRdTag, Generated.svcReadTag] using h2⟩

/-- **Multi-reads / multi-writes.**  A Multiple Service Packet of tag-service requests addressed to the
Message Router, written by the reference encoder and sent unconnected, is answered with a bundle that the
reference decoder takes apart into exactly the replies the members get when issued *one by one*
(`runSingly`, C07), and the tags end up in the same state. -/
theorem end_to_end_bundle (st : Srv.St) (rnd : Srv.Rnd) (c : Ref.Ctx) (t : Ref.Transport) (timeout : Nat)
    (p : Path) (ss : List Simple) (fr : Bytes) (hun : Unconnected t = true) (hc : CtxOk c = true)
    (henc : Ref.encMsg c (.request t timeout (.multiple p ss)) = some fr)
    (hp : resolve st.dev.symbols .no p = some (router.1, router.2, none))
    (hs : ∀ s ∈ ss, isTagService s = true) (hw : WFSimples ss = true)
    (hro : hasRouter st.dev = true) (hwf : st.dev.WF)
    (hok : ∀ r ∈ (runSingly st.dev ss).2, ReplyOk r)
    (hsize : ∀ ms, (runSingly st.dev ss).2.mapM encodeReply = some ms → Ref.tableLen ms < 60000) :
    ∃ out R, Srv.serve st rnd fr = ({ st with dev := (runSingly st.dev ss).1 }, .reply out)
      ∧ Ref.decReplyMsg out = some (c.hdr 0x6F, .cip none 0 timeout (.tag R))
      ∧ Ref.decBundle R = some (runSingly st.dev ss).2 := by
  obtain ⟨_, ms, hms, _⟩ := runSingly_producible st.dev hwf ss
  have hlen := hsize ms hms
  have hcm : notCM st.dev (.multiple p ss) = true := by
    simp [notCM, reqPath, hp, Srv.cm, router, Generated.iopCmClass, Generated.routerClass]
  let R : Reply := { svc := svcMulti, status := 0, raw := encodeMultiple ms }
  have hbe := bundle_equiv st.dev p ss hp
  have hRenc : encodeReply R = some ([svcMulti, 0, 0, 0] ++ encodeMultiple ms) := by
    simp [R, encodeReply, encodeStatus]
  have hexec : exec st.dev (.multiple p ss) = ((runSingly st.dev ss).1, some ([svcMulti, 0, 0, 0] ++ encodeMultiple ms)) := by
    simp only [exec, hbe, hms, Option.map_some, Option.bind_some]
    exact congrArg _ hRenc
  have hROk : ReplyOk R := by constructor <;> simp [R, isReadSvc, svcMulti, Generated.svcMultiple]
  -- the reply is `4 + tableLen ms` bytes
  have hreplen : ([svcMulti, 0, 0, 0] ++ encodeMultiple ms).length < 65000 := by
    rw [encodeMultiple_eq]
    simp only [List.cons_append, List.nil_append, List.length_cons, encTable_length]
    omega
  obtain ⟨out, h1, h2⟩ := request_end_to_end st rnd hun hc henc hw hcm hro
    (by rw [hexec]) hRenc hROk (by simp [R, svcMulti, Generated.svcMultiple]) hreplen
  rw [hexec] at h1
  exact ⟨out, R, h1, h2, decBundle_members hms hok (by omega)⟩

/-! ## connected messaging -/

/-- **`connected_session`.**  Register aside, a connected session is: Forward Open, requests in SendUnitData
frames, Forward Close.  On the model:

1. a Forward Open written by the reference encoder (small or large, any parameters with non-zero connection
   sizes, any port segments before the target) whose connection id is fresh is accepted: the reply decodes
   to status 0 carrying the O→T id the target picked, and `forwards` gains exactly one entry;
2. on a connection to the Message Router every connected request is executed by `exec` — *answered like the
   unconnected one* — the reply echoes connection id and sequence count, and the connection stays usable;
3. the matching Forward Close is acknowledged (decoded status 0, serial / vendor / originator echoed) and
   removes what the Forward Open added: `forwards` is as before. -/
theorem connected_session (st : Srv.St) (rnd : Srv.Rnd) (c : Ref.Ctx) (hc : CtxOk c = true) (hr : RndOk rnd) :
    -- 1. Forward Open
    (∀ timeout fo fr, Ref.encMsg c (.fwdOpen timeout fo) = some fr → FoAccepted st rnd fo → timeout < 65536 →
      ∃ out, Srv.serve st rnd fr = ({ st with fwds := st.fwds ++ [fwdEntry fo (foOtId fo rnd)] }, .reply out)
        ∧ Ref.decReplyMsg out = some (c.hdr 0x6F, .cip none 0 timeout (.fwdOpen
            { svc := (if fo.large then 0x5B else 0x54) + 128, status := 0, otId := foOtId fo rnd,
              toId := foToId fo rnd, serial := fo.serial, vendor := fo.vendor, oserial := fo.oserial,
              otApi := fo.otRpi, toApi := fo.toRpi }))
        ∧ (fo.target = [.cls 2, .ins 1] → (∀ f ∈ st.fwds, f.connId ≠ foOtId fo rnd) →
            ConnRouter { st with fwds := st.fwds ++ [fwdEntry fo (foOtId fo rnd)] } (foOtId fo rnd)))
    -- 2. connected requests
    ∧ (∀ id seq timeout s fr, Ref.encMsg c (.request (.connected id seq) timeout (.simple s)) = some fr →
        isTagSvc s = true → WFSimple s = true → hasRouter st.dev = true → st.dev.WF → devWireOk st.dev = true →
        ConnRouter st id →
        (∀ rep, encodeReply (execSimple st.dev s).2 = some rep → rep.length < 65000) →
        ∃ out, Srv.serve st rnd fr = ({ dev := (execSimple st.dev s).1, fwds := popPorts st.fwds id }, .reply out)
          ∧ Ref.decReplyMsg out = some (c.hdr 0x70, .cip (some (id, seq)) 0 timeout (.tag (execSimple st.dev s).2))
          ∧ ConnRouter { dev := (execSimple st.dev s).1, fwds := popPorts st.fwds id } id)
    -- 3. Forward Close
    ∧ (∀ timeout fc fr, Ref.encMsg c (.fwdClose timeout fc) = some fr → timeout < 65536 →
        ∃ out, Srv.serve st rnd fr = ({ st with fwds := st.fwds.filter (fun f => f.serial != fc.serial) }, .reply out)
          ∧ Ref.decReplyMsg out = some (c.hdr 0x6F, .cip none 0 timeout (.fwdClose
              { status := 0, serial := fc.serial, vendor := fc.vendor, oserial := fc.oserial }))) := by
  refine ⟨?_, ?_, ?_⟩
  · intro timeout fo fr henc hacc htimeout
    obtain ⟨b, hb, _⟩ := encMsg_some henc
    refine ⟨_, serve_fwdOpen hc henc hacc, ?_, ?_⟩
    · have hl : (foOkBytes fo rnd).length < 65000 := by simp [foOkBytes, Bytes.le_length]
      rw [decReplyMsg_rrFrame hc htimeout hl, decCip_foOk hb hr]
      rfl
    · intro htgt _
      refine ⟨fwdEntry fo (foOtId fo rnd), ?_, ?_⟩
      · simp [List.find?_append, hacc.2.2, fwdEntry]
      · simp only [fwdEntry, htgt, portSegs]
        rw [List.dropWhile_append_of_pos (fun a ha => by obtain ⟨x, _, rfl⟩ := List.mem_map.mp ha; rfl)]
        rfl
  · intro id seq timeout s fr henc hs hw hro hwf hwire hconn hsize
    obtain ⟨_, rep, hrep⟩ := execSimple_preserves_wf st.dev hwf s
    obtain ⟨out, h1, h2⟩ := connected_request_end_to_end st rnd hc henc hw hro hconn
      hrep hrep (execSimple_replyOk hs hwire) (isTagSvc_svc st.dev hs) (hsize rep hrep)
    exact ⟨out, h1, h2, connRouter_popPorts id hconn _⟩
  · intro timeout fc fr henc htimeout
    obtain ⟨b, hb, _⟩ := encMsg_some henc
    refine ⟨_, serve_fwdClose hc henc, ?_⟩
    have hl : (fcOkBytes fc).length < 65000 := by simp [fcOkBytes, Bytes.le_length]
    rw [decReplyMsg_rrFrame hc htimeout hl, decCip_fcOk hb]
    rfl

/-- Forward Open then Forward Close with the same connection serial leaves `forwards` as it was (also after
connected requests popped the port segments of the stored path) -/
theorem open_close_restores (fwds : List Srv.Fwd) (fo : Ref.FwdOpen) (otId id : Nat)
    (h : ∀ f ∈ fwds, f.serial ≠ fo.serial) :
    (popPorts (fwds ++ [fwdEntry fo otId]) id).filter (fun f => f.serial != fo.serial) = popPorts fwds id := by
  have := filter_after_open fwds (fwdEntry fo otId) (by simpa [fwdEntry] using h)
  simp only [fwdEntry] at this
  rw [filter_popPorts]
  simp only [fwdEntry, this]

/-! ## the generic client (what `pylogix`-style APIs do with the services) -/

/-- **A multi-read returns, tag by tag, what the single reads return** (the bundle is a Multiple Service
Packet; by C07 its members execute one by one, and reads change nothing) -/
theorem client_multiRead (d : Dev) (ps : List Path) :
    IopClient.run d (.multiRead ps) = (d, ps.map fun p => IopClient.resOf (execSimple d (.readTag p 1)).2) := by
  simp only [IopClient.run, execMembers_eq_runSingly, runSingly_reads, List.map_map]
  rfl

/-! ## unresolvable *unconnected* request paths, before and after the `fix:` commit -/

def demoSt : Srv.St := { dev := demoDev }
def demoCtx : Ref.Ctx := { session := 0x11223344, context := [1, 2, 3, 4, 5, 6, 7, 8] }

/-- Read Tag of the unknown tag `nosuch`, bare in a SendRRData frame, as the reference encoder writes it -/
def unknownTagFrame : Bytes :=
  (Ref.encMsg demoCtx (.request .direct 5 (.simple (.readTag [.symbolic "nosuch"] 1)))).getD []

/-- the code before the `fix:` commit: `Connection_Manager.request` cannot resolve the path, the exception
reaches `UCMM.request`, the client gets an empty frame with encapsulation status 0x08 and the session ends -/
theorem old_unknown_tag_ends_session :
    (Srv.serveOld demoSt {} unknownTagFrame).2 =
      .fail (Srv.produceEnip { command := 0x6F, session := 0x11223344, status := 8, context := [1, 2, 3, 4, 5, 6, 7, 8],
                               options := 0, input := [] }) := by decide +kernel

/-- repaired: the Message Router answers with CIP status 0x05 (extended 0x0000) and the session continues -/
theorem new_unknown_tag_status_5 :
    ∃ out, (Srv.serve demoSt {} unknownTagFrame).2 = .reply out
      ∧ Ref.decReplyMsg out = some (demoCtx.hdr 0x6F, .cip none 0 5 (.tag { svc := 0xCC, status := 5, ext := [0] })) := by
  refine ⟨_, rfl, ?_⟩
  decide +kernel

/-- the same request over a connection, or inside a Multiple Service Packet, is answered with 0x05 in both versions -/
example : (exec demoDev (.multiple [.cls 2, .ins 1] [.readTag [.symbolic "nosuch"] 1])).2 =
    some ([0x8A, 0, 0, 0] ++ [1, 0, 4, 0] ++ [0xCC, 0, 5, 1, 0, 0]) := by decide +kernel

/-! ## known finding (not repaired): string arrays larger than one reply -/

def strDev : Dev :=
  { objs := [{ cls := 2, ins := 1, attrs := [(1, { ty := .sstring, scalar := false, vals := List.replicate 10 (.str []) })] }],
    symbols := [("zz", (2, 1, 1))] }

/-- the full statement "a client following the services' definition can fragment-read any tag" fails on the
model for a 10-element SSTRING tag at the default `MAX_BYTES`: the first reply carries 7 elements with status
6, the continuation at the byte offset received (7) is refused with 0xFF — `reply_elements` counts a string
element as 80 bytes.  (`end_to_end_read` holds per request; the defect is in what offsets are acceptable.) -/
theorem client_string_array_read_fails :
    (execSimple strDev (.readTag [.symbolic "zz", .elem 0] 10)).2.status = 6
    ∧ ((execSimple strDev (.readTag [.symbolic "zz", .elem 0] 10)).2.vals).length = 7
    ∧ (IopClient.read strDev [.symbolic "zz", .elem 0] 10).status = 255 := by decide +kernel

/-- … while for fixed-size element types the generic client's read does complete (here: the 3 SINTs of `a`
in fragments of one element, `MAX_BYTES = 1`) -/
example : IopClient.read { demoDev with maxBytes := 1 } [.symbolic "a"] 3
    = { status := 0, ty := some .sint, vals := [.int 1, .int 2, .int 3] } := by decide +kernel

/-! ## non-vacuity: the hypotheses hold on a device with contents, and the pipeline computes -/

example : CtxOk demoCtx = true ∧ hasRouter demoDev = true ∧ devWireOk demoDev = true
    ∧ notCM demoDev (.simple (.readTag [.symbolic "A", .elem 1] 2)) = true
    ∧ WFSimple (.writeTag [.symbolic "a"] 194 2 [5, 251]) = true := by decide +kernel

/-- Read Tag A[1] ×2 inside an Unconnected Send with a route path, through encoder, server, decoder -/
example :
    (Ref.encMsg demoCtx (.request (.wrapped 5 157 [(1, 0)]) 5 (.simple (.readTag [.symbolic "A", .elem 1] 2)))).bind
      (fun fr => match (Srv.serve demoSt {} fr).2 with
        | .reply out => Ref.decReplyMsg out
        | _ => none)
    = some (demoCtx.hdr 0x6F, .cip none 0 5 (.tag { svc := 0xCC, status := 0, ty := some .sint, vals := [.int 2, .int 3] })) := by
  decide +kernel

/-- a whole connected session on the model: Forward Open (large, through port 1 link 0), a connected write, a
connected read that sees it, Forward Close; `forwards` ends empty -/
def demoFo : Ref.FwdOpen :=
  { large := true, prio := 10, ticks := 14, otId := 0x20000002, toId := 7, serial := 9, vendor := 0x1337, oserial := 42,
    mult := 3, otRpi := 0x201234, otNcp := 0x42000FA2, toRpi := 0x204001, toNcp := 0x42000FA2, tct := 0xA3,
    ports := [(1, 0)], target := [.cls 2, .ins 1] }

def demoSession : List (Srv.Rnd × Ref.Msg) :=
  [ ({ session := 77 }, .register 1 0),
    ({ otId := 0xC0FFEE }, .fwdOpen 0 demoFo),
    ({}, .request (.connected 0xC0FFEE 1) 0 (.simple (.writeTag [.symbolic "a", .elem 1] 194 1 [251]))),
    ({}, .request (.connected 0xC0FFEE 2) 0 (.simple (.readTag [.symbolic "A"] 3))),
    ({}, .fwdClose 0 { prio := 10, ticks := 14, serial := 9, vendor := 0x1337, oserial := 42, ports := [(1, 0)],
                       target := [.cls 2, .ins 1] }) ]

def runDemo : Srv.St → List (Srv.Rnd × Ref.Msg) → List (Option Ref.RMsg) × Nat
  | st, [] => ([], st.fwds.length)
  | st, (rnd, m) :: rest =>
    match Ref.encMsg demoCtx m with
    | none => ([none], st.fwds.length)
    | some fr =>
      let (st', out) := Srv.serve st rnd fr
      let dec := match out with
        | .reply bs => (Ref.decReplyMsg bs).map (·.2)
        | _ => none
      let (ds, n) := runDemo st' rest
      (dec :: ds, n)

example : runDemo demoSt demoSession =
    ([ some (.registered 1 0),
       some (.cip none 0 0 (.fwdOpen { svc := 0xDB, status := 0, otId := 0xC0FFEE, toId := 7, serial := 9, vendor := 0x1337,
                                       oserial := 42, otApi := 0x201234, toApi := 0x204001 })),
       some (.cip (some (0xC0FFEE, 1)) 0 0 (.tag { svc := 0xCD, status := 0 })),
       some (.cip (some (0xC0FFEE, 2)) 0 0 (.tag { svc := 0xCC, status := 0, ty := some .sint,
                                                    vals := [.int 1, .int (-5), .int 3] })),
       some (.cip none 0 0 (.fwdClose { status := 0, serial := 9, vendor := 0x1337, oserial := 42 })) ], 0) := by
  decide +kernel

end Cpppo.Interop
