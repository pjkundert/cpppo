import Cpppo.Proofs.Serve
import Cpppo.Proofs.Crumbs

/-!
# C08 — Malformed or hostile input cannot hang, crash or corrupt the simulator

Property (given): *for any byte sequence whatsoever sent on a connection the simulator finishes processing in
time bounded by the input length and either replies or closes that connection: it never loops forever, never
takes the whole server down, and never alters a tag except through a complete, well-formed write request.
After any such input the simulator keeps serving new sessions and other existing sessions correctly.*

What is proved here, for **all** byte strings, device states and continuations (`fate`), about
`Cpppo.Serve` (frame splitter `splitFrame`, byte-level decoder `decodeFrame` of the tag services incl. EPATH,
Unconnected Send wrapper and Multiple Service Packet, the stream loop `serve`, reply frames) on top of
`Cpppo.Logix.exec`:

* bounded work / progress: `serve_progress`, `serve_needs_no_fuel`, `parse_tree_linear`,
  `frame_is_prefix`, `incomplete_frame_no_effect`, `bundle_work_bounded_by_depth`, `work_linear_partial`
* **finding** `nested_bundles_superlinear`: Multiple Service Packets nested in one another make the parsers'
  work quadratic (each level re-parses everything inside it) -- the linear bound holds only without nesting
* state protection: `tags_change_only_by_write` (stream), `frame_change_is_write`, `bad_frame_isolated`,
  `request_change_is_write`, `hostile_stream_no_effect`, `later_session_unaffected`,
  `sized_frame_change_is_write`, `oversize_request_refused_noop` (the `--size` limit)
* datagrams (UDP loop `serveDatagrams`): `datagram_independent`, `hostile_datagram_invisible`,
  `datagram_trailing_bytes_ignored`, `datagram_incomplete_dropped`, `datagram_change_is_write`
* replies: `decoded_frame_is_answered`
* the no-progress detection of the parser engine: `engine_no_progress_stops`

**Partial**: the statement's remaining clauses live in the runtime and are *observed on the real code on every
run* (harness/corr/c08.py), not proved: the real engine's generator steps stay below a fixed linear bound,
only ordinary exceptions leave `logix.process`, the connection's thread ends / its `connections` entry is removed /
the socket is closed, a new session and an already existing one are served correctly afterwards; wall-clock time,
memory and the accept loop of `server_main`.  Frames outside the model's grammar that the code's own parser
accepts (length fields larger than the content, trailing bytes, …) are tied by test: their effect must equal
`exec` applied to the request as the code parsed it, so `request_change_is_write` covers them too.
-/
namespace Cpppo.Serve
open Cpppo.Logix

/-- **A frame is a prefix of the stream**: 24 header bytes, exactly `length` payload bytes, and the rest of
the stream untouched (no inner length field can make the frame parser run past the frame). -/
theorem frame_is_prefix (bs pl rest : Bytes) (h : Header) (hs : splitFrame bs = some (h, pl, rest)) :
    bs = bs.take 24 ++ pl ++ rest ∧ pl.length = h.len ∧ bs.length = 24 + h.len + rest.length :=
  splitFrame_spec hs

/-- **An incomplete frame has no effect** (and ends the loop): nothing is processed, no tag changes. -/
theorem incomplete_frame_no_effect (fate : Nat → Bool) (d : Dev) (bs : Bytes) (h : splitFrame bs = none) :
    serve fate d bs = (d, []) :=
  serveStream_none fate bs.length 0 d h

/-- **Progress**: every processed frame takes at least its 24 header bytes off the stream, so a stream of
`n` bytes makes the connection loop run at most `n / 24` times -/
theorem serve_progress (fate : Nat → Bool) (d : Dev) (bs : Bytes) :
    (serve fate d bs).2.length * 24 ≤ bs.length :=
  serveStream_count fate bs.length 0 d bs

/-- **Termination is not owed to the fuel**: any amount of fuel ≥ the stream length gives the same run, i.e.
the loop always ends because the stream is used up or the session ends. -/
theorem serve_needs_no_fuel (fate : Nat → Bool) (d : Dev) (bs : Bytes) (n : Nat) (hn : bs.length ≤ n) :
    serveStream fate n 0 d bs = serve fate d bs :=
  serveStream_fuel fate n bs.length 0 d bs hn (Nat.le_refl _)

/-- **The parse of a frame is linear in its length**: the request, its path segments, the members of a bundle
and their path segments -- one pass of a decoder loop each -- number at most half the payload bytes. -/
theorem parse_tree_linear (d : Dev) (h : Header) (pl : Bytes) (dec : Decoded)
    (hd : decodeFrame d h pl = some dec) : 2 * reqNodes dec.req ≤ pl.length := by
  obtain ⟨req, hreq, _⟩ := decodeFrame_request hd
  have := decodeReq_nodes hreq
  omega

/-! ### the work of the Multiple Service Packet parser: linear only without nesting (finding) -/

/-- **true complexity of the bundle parser**: a request whose bundles are nested `depth` levels deep is
scanned at most `depth` times -/
theorem bundle_work_bounded_by_depth (depth : Nat) (bs : Bytes) : scanCost depth bs ≤ depth * bs.length := by
  induction depth generalizing bs with
  | zero => exact Nat.zero_le _
  | succ n ih =>
    obtain e | ⟨r0, p, body, ms, rfl, he, hm⟩ := scanCost_succ n bs
    · rw [e]; exact Nat.le_mul_of_pos_left _ n.succ_pos
    · rw [scanCost_bundle n he hm]
      have hb := decodeEpath_progress he
      have hs := (memberSlices_spec hm).1
      have hsum := sum_map_le_sum (scanCost n) (fun x => n * x.length) ms fun x _ => ih x
      rw [sum_map_mul_left] at hsum
      have : n * (ms.map List.length).sum ≤ n * r0.length := Nat.mul_le_mul_left _ (by omega)
      rw [List.length_cons, Nat.add_mul, Nat.mul_add]
      omega

/-- **`work_linear_partial`**: for every request of the model's grammar (decidable: `decodeReq bs` succeeds;
in particular no bundle inside a bundle) the parsers consume at most twice the request's bytes, however
much nesting the parser would be prepared to follow.  The full statement -- the same for *every* byte string
-- is false for the code and for this model of it: see `nested_bundles_superlinear`. -/
theorem work_linear_partial (bs : Bytes) (r : Req) (h : decodeReq bs = some r) (fuel : Nat) :
    scanCost fuel bs ≤ 2 * bs.length := by
  obtain ⟨s, hs, _⟩ | ⟨r0, p, body, sl, ms, rfl, he, hsl, hmm, _⟩ := decodeReq_eq_some h
  · have := scanCost_simple hs fuel
    omega
  · cases fuel with
    | zero => exact Nat.zero_le _
    | succ n =>
      -- every member is a complete non-bundle request: one pass each
      have hle := mapM_sum_le (scanCost n) List.length (fun _ => 0) hmm fun _ _ hy => scanCost_simple hy n
      have := (memberSlices_spec hsl).1
      have := decodeEpath_progress he
      rw [scanCost_bundle n he hsl, List.length_cons]
      omega

/-- one level of nesting: a Multiple Service Packet addressed to the Message Router with exactly one member -/
def nestHeader : Bytes := [10, 2, 32, 2, 36, 1, 1, 0, 4, 0]

/-- Get Attributes All of the Message Router inside `d` Multiple Service Packets -/
def nest : Nat → Bytes
  | 0 => [1, 2, 32, 2, 36, 1]
  | d + 1 => nestHeader ++ nest d

theorem nest_length (d : Nat) : (nest d).length = 6 + 10 * d := by
  induction d with
  | zero => rfl
  | succ n ih => simp only [nest, nestHeader, List.length_append, List.length_cons, List.length_nil, ih]; omega

/-- one more level costs one more pass over everything inside -/
theorem scanCost_nest_step (fuel : Nat) (x : Bytes) (hx : 0 < x.length) :
    scanCost (fuel + 1) (nestHeader ++ x) = (10 + x.length) + scanCost fuel x := by
  have he (y : Bytes) : decodeEpath false (2 :: ([32, 2, 36, 1] ++ y)) = some ([.cls 2, .ins 1], y) := by
    have ht := takeN_append y (rfl : takeN 4 [32, 2, 36, 1] = some ([32, 2, 36, 1], []))
    simp only [decodeEpath, Bool.false_eq_true, if_false, Nat.reduceMul, ht]
    rfl
  have hm : memberSlices (1 :: 0 :: 4 :: 0 :: x) = some [x] := by
    simp [memberSlices, u16, readU16s, increasing, slices, hx]
  refine (scanCost_bundle fuel (he _) hm).trans ?_
  simp only [List.map_cons, List.map_nil, List.sum_cons, List.sum_nil, List.length_cons, List.length_append,
    List.length_nil]
  omega

/-- each of the `d` levels scans everything it contains: at least `d/2` passes per byte -/
theorem nest_cost (d : Nat) (fuel : Nat) (hf : d < fuel) :
    d * (nest d).length ≤ 2 * scanCost fuel (nest d) := by
  induction d generalizing fuel with
  | zero => simp
  | succ n ih =>
    cases fuel with
    | zero => omega
    | succ f =>
      have h1 := ih f (by omega)
      have hl := nest_length n
      rw [nest, scanCost_nest_step f (nest n) (by omega), List.length_append, Nat.add_mul, Nat.mul_add]
      simp only [nestHeader, List.length_cons, List.length_nil]
      omega

/-- **Finding (negation of the full statement on the model): the work is not linear in the input.**
For every would-be constant `a, b` there is a request -- `a` … nested Multiple Service Packet headers of 10 bytes
each around one 6-byte request -- whose parsing costs more than `a·len + b` (the code: each nesting level
re-parses all the bytes it contains; measured on the real engine on every run). -/
theorem nested_bundles_superlinear (a b : Nat) :
    ∃ bs : Bytes, a * bs.length + b < scanCost bs.length bs := by
  refine ⟨nest (2 * a + b + 1), ?_⟩
  have hl := nest_length (2 * a + b + 1)
  have hc := nest_cost (2 * a + b + 1) (nest (2 * a + b + 1)).length (by omega)
  -- d·len ≤ 2·cost with d > 2a + b, len ≥ 1
  generalize scanCost _ _ = c at hc ⊢
  generalize (nest _).length = L at hc hl ⊢
  have : b ≤ b * L := Nat.le_mul_of_pos_right b (by omega)
  rw [Nat.add_mul, Nat.add_mul, Nat.mul_assoc, Nat.one_mul] at hc
  omega

/-- **An executed request changes a tag only if it is a write service (Write Tag [Fragmented], Set Attribute
Single — possibly a member of a bundle) that the device acknowledges with status 0.**  Holds for *every*
request, however it was parsed. -/
theorem request_change_is_write (d : Dev) (r : Req) (h : (exec d r).1 ≠ d) : AcceptedWrite d r := by
  cases r with
  | simple s =>
    simp only [exec] at h
    show isWrite s = true ∧ (execSimple d s).2.status = 0
    exact Decidable.of_not_not fun hw => h (execSimpleAt_noop d router s hw)
  | multiple p ms =>
    simp only [exec, execMultiple] at h
    show AcceptedWriteAt ((routeTarget d router p).getD router) d ms
    split at h
    · exact absurd rfl h
    · apply execMembers_change
      split at h <;> exact h

/-- **A frame that is not a well-formed request touches nothing** (`Outcome.other`: answered by something
else, refused, or the session ends). -/
theorem bad_frame_isolated (d : Dev) (h : Header) (pl : Bytes) (hd : decodeFrame d h pl = none) :
    serveFrame d h pl = (d, .other) := by
  unfold serveFrame; rw [hd]

/-- one frame: a change of the device ⇒ the frame decodes to an accepted write -/
theorem frame_change_is_write (d : Dev) (h : Header) (pl : Bytes) (hc : (serveFrame d h pl).1 ≠ d) :
    ∃ dec, decodeFrame d h pl = some dec ∧ AcceptedWrite d dec.req := by
  revert hc
  fun_cases serveFrame d h pl
  all_goals intro hc
  · exact absurd rfl hc  -- not a request
  · rename_i dec hd _ _ he  -- decoded to `dec` and executed
    exact ⟨dec, hd, request_change_is_write d dec.req (by rw [he]; exact hc)⟩

/-- **A request refused for its size is not executed** (`--size` limit configured): whatever it carries, the
device is unchanged, and the only frames that change a tag are within the limit, decode, and contain an accepted
write. -/
theorem sized_frame_change_is_write (limit : Option Nat) (d : Dev) (h : Header) (pl : Bytes)
    (hc : (serveFrameSized limit d h pl).1 ≠ d) :
    (∀ n, limit = some n → pl.length ≤ n) ∧ ∃ dec, decodeFrame d h pl = some dec ∧ AcceptedWrite d dec.req := by
  revert hc
  fun_cases serveFrameSized limit d h pl
  all_goals intro hc
  · exact ⟨nofun, frame_change_is_write d h pl hc⟩  -- no limit
  · exact absurd rfl hc  -- too long and not a request
  · exact absurd rfl hc  -- too long: refused
  · rename_i n hle  -- within the limit `n`
    exact ⟨fun m hm => by cases hm; omega, frame_change_is_write d h pl hc⟩

theorem oversize_request_refused_noop (n : Nat) (d : Dev) (h : Header) (pl : Bytes) (hl : n < pl.length) :
    (serveFrameSized (some n) d h pl).1 = d := by
  refine Decidable.byContradiction fun hc => ?_
  have := (sized_frame_change_is_write (some n) d h pl hc).1 n rfl
  omega

/-- **No byte sequence alters a tag except through a complete, well-formed, accepted write request**:
if serving the stream `bs` (whatever the fate of the frames that are not well-formed requests) leaves the device
different, then at some offset of `bs` a complete frame starts whose payload decodes — every length, count,
offset and size field consistent — to a request containing a write service acknowledged with status 0 in the
state `dk` it was executed in. -/
theorem tags_change_only_by_write (fate : Nat → Bool) (d : Dev) (bs : Bytes) (hc : (serve fate d bs).1 ≠ d) :
    ∃ (off : Nat) (hd : Header) (pl rest : Bytes) (dk : Dev) (dec : Decoded),
      splitFrame (bs.drop off) = some (hd, pl, rest) ∧ decodeFrame dk hd pl = some dec ∧ AcceptedWrite dk dec.req := by
  unfold serve at hc
  generalize bs.length = fuel at hc
  generalize (0 : Nat) = k at hc
  revert hc
  fun_induction serveStream fate fuel k d bs
  all_goals intro hc
  · exact absurd rfl hc  -- fuel spent
  · exact absurd rfl hc  -- no complete frame
  · -- the frame `hd pl`, served to `(d1, o)`, and the session goes on to `(d2, os)`
    rename_i d bs hd pl rest hs d1 o hf _ _ d2 os hrec ih
    by_cases h1 : d1 = d
    · -- this frame changed nothing: the change happens later in the stream
      subst h1
      obtain ⟨off, hd', pl', rest', dk, dec, h2, h3, h4⟩ := ih (by rw [hrec]; exact hc)
      refine ⟨24 + pl.length + off, hd', pl', rest', dk, dec, ?_, h3, h4⟩
      obtain ⟨e, hpl, hl⟩ := splitFrame_spec hs
      rw [← List.drop_drop, e, List.drop_left' (by rw [List.length_append, List.length_take]; omega)]
      exact h2
    · obtain ⟨dec, h2, h3⟩ := frame_change_is_write d hd pl (by rw [hf]; exact h1)
      exact ⟨0, hd, pl, rest, d, dec, hs, h2, h3⟩
  · -- the frame `hd pl`, served to `(d1, o)`, and the session ends
    rename_i d bs hd pl rest hs d1 o hf _ _
    obtain ⟨dec, h2, h3⟩ := frame_change_is_write d hd pl (by rw [hf]; exact hc)
    exact ⟨0, hd, pl, rest, d, dec, hs, h2, h3⟩

/-- the contrapositive, as the property words it: a stream in which no frame is a well-formed request leaves
every tag as it was -/
theorem hostile_stream_no_effect (fate : Nat → Bool) (d : Dev) (bs : Bytes)
    (hbad : ∀ off hd pl rest dk, splitFrame (bs.drop off) = some (hd, pl, rest) → decodeFrame dk hd pl = none) :
    (serve fate d bs).1 = d := by
  refine Decidable.byContradiction fun h => ?_
  obtain ⟨off, hd, pl, rest, dk, dec, h1, h2, _⟩ := tags_change_only_by_write fate d bs h
  rw [hbad off hd pl rest dk h1] at h2
  cases h2

/-- **After hostile input the simulator serves the next session exactly as if that input had never arrived**:
the device is the only state sessions share in the model, and a stream without a well-formed request leaves it
untouched -- so every later stream `next` (a new session, or the rest of an existing one) gets the same replies
and has the same effect. -/
theorem later_session_unaffected (fate fate' : Nat → Bool) (d : Dev) (bs next : Bytes)
    (hbad : ∀ off hd pl rest dk, splitFrame (bs.drop off) = some (hd, pl, rest) → decodeFrame dk hd pl = none) :
    serve fate' (serve fate d bs).1 next = serve fate' d next := by
  rw [hostile_stream_no_effect fate d bs hbad]

/-! ### datagrams (the UDP loop): a datagram is handled on its own -/

/-- **Bytes behind the datagram's first complete frame affect nothing** (not this datagram's handling, and --
there being no carried-over input in `serveDatagrams` -- no other datagram's). -/
theorem datagram_trailing_bytes_ignored (d : Dev) (f x pl : Bytes) (hd : Header)
    (hf : splitFrame f = some (hd, pl, [])) : serveDatagram d (f ++ x) = serveDatagram d f := by
  unfold serveDatagram
  rw [splitFrame_append x hf, hf]

/-- **A datagram that does not hold a complete frame is dropped without effect.** -/
theorem datagram_incomplete_dropped (d : Dev) (dg : Bytes) (h : splitFrame dg = none) :
    serveDatagram d dg = (d, .dropped) := by
  unfold serveDatagram; rw [h]

theorem datagram_change_is_write (d : Dev) (dg : Bytes) (hc : (serveDatagram d dg).1 ≠ d) :
    ∃ hd pl rest dec, splitFrame dg = some (hd, pl, rest) ∧ decodeFrame d hd pl = some dec
      ∧ AcceptedWrite d dec.req := by
  revert hc
  fun_cases serveDatagram d dg
  all_goals intro hc
  · exact absurd rfl hc  -- no complete frame
  · rename_i hd pl rest hs _ _ hf  -- the first frame `hd pl`
    obtain ⟨dec, h1, h2⟩ := frame_change_is_write d hd pl (by rw [hf]; exact hc)
    exact ⟨hd, pl, rest, dec, hs, h1, h2⟩

theorem serveDatagrams_append (d : Dev) (a b : List Bytes) :
    serveDatagrams d (a ++ b) =
      ((serveDatagrams (serveDatagrams d a).1 b).1, (serveDatagrams d a).2 ++ (serveDatagrams (serveDatagrams d a).1 b).2) := by
  fun_induction serveDatagrams d a
  · rfl
  · rename_i hd _ _ hrec ih
    simp only [List.cons_append, serveDatagrams, hd, ih, hrec]

/-- **The handling of a datagram does not depend on the bytes of any other datagram**, except through tags
written by well-formed accepted writes: take any sequence of datagrams `a ++ x :: b` from any peers.  Either `x`
holds a well-formed request with a write the device accepts in the state `x` arrives in, or every other datagram
is handled exactly -- same replies, same effect -- as if `x` had never been sent: the run is the run of
`a ++ b` with `x`'s own outcome put in its place. -/
theorem datagram_independent (d : Dev) (a b : List Bytes) (x : Bytes) :
    (∃ hd pl rest dec, splitFrame x = some (hd, pl, rest)
        ∧ decodeFrame (serveDatagrams d a).1 hd pl = some dec ∧ AcceptedWrite (serveDatagrams d a).1 dec.req)
    ∨ (serveDatagrams d (a ++ x :: b) =
        ((serveDatagrams d (a ++ b)).1,
         (serveDatagrams d a).2 ++ (serveDatagram (serveDatagrams d a).1 x).2 :: (serveDatagrams (serveDatagrams d a).1 b).2)
       ∧ (serveDatagrams d (a ++ b)).2 = (serveDatagrams d a).2 ++ (serveDatagrams (serveDatagrams d a).1 b).2) := by
  by_cases hx : (serveDatagram (serveDatagrams d a).1 x).1 = (serveDatagrams d a).1
  · right
    rw [serveDatagrams_append d a (x :: b), serveDatagrams_append d a b]
    simp only [serveDatagrams, hx, and_self]
  · left
    exact datagram_change_is_write _ x hx

/-- in particular a hostile datagram (no well-formed request in it, whatever the state) is invisible to all
others: it cannot corrupt, delay or suppress a valid request of another peer -/
theorem hostile_datagram_invisible (d : Dev) (a b : List Bytes) (x : Bytes)
    (hbad : ∀ dk hd pl rest, splitFrame x = some (hd, pl, rest) → decodeFrame dk hd pl = none) :
    (serveDatagrams d (a ++ x :: b)).1 = (serveDatagrams d (a ++ b)).1
    ∧ (serveDatagrams d (a ++ x :: b)).2 =
        (serveDatagrams d a).2 ++ (serveDatagram (serveDatagrams d a).1 x).2 :: (serveDatagrams (serveDatagrams d a).1 b).2
    ∧ (serveDatagrams d (a ++ b)).2 = (serveDatagrams d a).2 ++ (serveDatagrams (serveDatagrams d a).1 b).2 := by
  rcases datagram_independent d a b x with ⟨hd, pl, rest, dec, h1, h2, _⟩ | ⟨h1, h2⟩
  · rw [hbad _ hd pl rest h1] at h2
    cases h2
  · rw [h1]
    exact ⟨rfl, rfl, h2⟩

/-- **A well-formed request is always answered** (one reply frame; the session goes on unless the reply could
not be produced), an ill-formed one never makes the model reply on its behalf. -/
theorem decoded_frame_is_answered (d : Dev) (h : Header) (pl : Bytes) (dec : Decoded)
    (hd : decodeFrame d h pl = some dec) :
    ∃ frame, (serveFrame d h pl).2 = .reply frame (exec d dec.req).2.isSome ∧
      frame = encodeReplyFrame h dec (exec d dec.req).2 := by
  unfold serveFrame; rw [hd]
  exact ⟨_, rfl, rfl⟩

/-- **A machine level that remembers its crumbs `(state, position)` stops**: whatever the transition function
does (consume, push back, loop on epsilon transitions), the loop makes at most `|states|·(|input|+1)`
passes, and given that much fuel it ends by itself — on a missing transition or on seeing a crumb again
(`dfa_base.delegate`'s stasis, `state.run`'s `seen`). -/
theorem engine_no_progress_stops (m : Machine) (input : List Nat) (fuel : Nat) (c : Nat × Nat)
    (hc : c.1 < m.nstates ∧ c.2 ≤ input.length) :
    (runCrumbs m input fuel [c] c).passes ≤ m.nstates * (input.length + 1)
    ∧ (m.nstates * (input.length + 1) < fuel → (runCrumbs m input fuel [c] c).stop ≠ .fuel) := by
  have hn : [c].Nodup := List.pairwise_singleton _ c
  have hv : ∀ x ∈ [c], x.1 < m.nstates ∧ x.2 ≤ input.length := List.forall_mem_singleton.mpr hc
  constructor
  · have := runCrumbs_le m input fuel [c] c hn hv
    simp only [List.length_singleton] at this
    omega
  · intro hf
    exact runCrumbs_stops m input fuel [c] c hn hv (by simp only [List.length_singleton]; omega)

/-! ### non-vacuity and witnesses (tests of the definitions, by evaluation) -/

def demoDev : Dev :=
  { objs := [{ cls := 2, ins := 1, attrs := [(1, { ty := .int, scalar := false, vals := [.int 0, .int 0] })] }],
    symbols := [("a", (2, 1, 1))] }

/-- Write Tag `A[1]` := INT 7 in an Unconnected Send in SendRRData (68 bytes) -/
def writeFrame : Bytes :=
  [111, 0, 44, 0, 68, 51, 34, 17, 0, 0, 0, 0, 1, 2, 3, 4, 5, 6, 7, 8, 0, 0, 0, 0, 0, 0, 0, 0, 5, 0, 2, 0, 0, 0, 0, 0,
   178, 0, 28, 0, 82, 2, 32, 6, 36, 1, 5, 157, 14, 0, 77, 3, 145, 1, 65, 0, 40, 1, 195, 0, 1, 0, 7, 0, 1, 0, 1, 0]

/-- the same frame with the CPF item length one too large -/
def badFrame : Bytes :=
  [111, 0, 44, 0, 68, 51, 34, 17, 0, 0, 0, 0, 1, 2, 3, 4, 5, 6, 7, 8, 0, 0, 0, 0, 0, 0, 0, 0, 5, 0, 2, 0, 0, 0, 0, 0,
   178, 0, 29, 0, 82, 2, 32, 6, 36, 1, 5, 157, 14, 0, 77, 3, 145, 1, 65, 0, 40, 1, 195, 0, 1, 0, 7, 0, 1, 0, 1, 0]

/-- the well-formed write is executed and answered: 44-byte reply echoing session and context, status 0 -/
example : serve (fun _ => true) demoDev writeFrame =
    ({ demoDev with objs := [{ cls := 2, ins := 1, attrs := [(1, { ty := .int, scalar := false, vals := [.int 0, .int 7] })] }] },
     [.reply [111, 0, 20, 0, 68, 51, 34, 17, 0, 0, 0, 0, 1, 2, 3, 4, 5, 6, 7, 8, 0, 0, 0, 0, 0, 0, 0, 0, 5, 0, 2, 0,
              0, 0, 0, 0, 178, 0, 4, 0, 205, 0, 0, 0] true]) := by decide +kernel

/-- the inconsistent frame is not a request: nothing changes, and the write behind it still works when the
session survives (`tags_change_only_by_write` then points at offset 68) -/
example : serve (fun _ => true) demoDev badFrame = (demoDev, [.other]) := by decide +kernel

example : (serve (fun _ => true) demoDev (badFrame ++ writeFrame)).1 ≠ demoDev
    ∧ (serve (fun _ => false) demoDev (badFrame ++ writeFrame)).1 = demoDev := by decide +kernel

/-- the hypothesis of `hostile_stream_no_effect` / `later_session_unaffected` holds e.g. for every stream that is
too short to hold a frame (and, by evaluation above, for `badFrame`) -/
example : ∀ off hd pl rest (dk : Dev), splitFrame ((writeFrame.take 20).drop off) = some (hd, pl, rest) →
    decodeFrame dk hd pl = none := by
  intro off hd pl rest dk h
  have := splitFrame_progress h
  simp only [List.length_drop, List.length_take] at this
  omega

/-- datagrams: a hostile one (`badFrame` + trailing bytes) between a truncated one and the valid write of another
peer: the write is executed and answered exactly as when it is sent alone -/
example : (serveDatagrams demoDev [writeFrame.take 50, badFrame ++ [1, 2, 3], writeFrame ++ [9, 9]]).2
      = [.dropped, .frame .other, (serveDatagram demoDev writeFrame).2]
    ∧ (serveDatagrams demoDev [writeFrame.take 50, badFrame ++ [1, 2, 3], writeFrame ++ [9, 9]]).1
      = (serveDatagram demoDev writeFrame).1 := by decide +kernel

/-- with `--size 40` the 44-byte write is answered with status 0x65 and changes nothing; with `--size 44` it is executed -/
example : (serveFrameSized (some 40) demoDev ⟨111, 44, 287454020, 0, [1, 2, 3, 4, 5, 6, 7, 8], 0⟩ (writeFrame.drop 24))
      = (demoDev, .reply [111, 0, 0, 0, 68, 51, 34, 17, 0x65, 0, 0, 0, 1, 2, 3, 4, 5, 6, 7, 8, 0, 0, 0, 0] false)
    ∧ (serveFrameSized (some 44) demoDev ⟨111, 44, 287454020, 0, [1, 2, 3, 4, 5, 6, 7, 8], 0⟩ (writeFrame.drop 24)).1
      ≠ demoDev := by decide +kernel

/-- a truncated frame: nothing is processed -/
example : serve (fun _ => true) demoDev (writeFrame.take 67) = (demoDev, []) := by decide +kernel

/-- hypotheses of `parse_tree_linear` / `frame_change_is_write` are satisfiable -/
example : ∃ h pl dec, splitFrame writeFrame = some (h, pl, []) ∧ decodeFrame demoDev h pl = some dec
    ∧ dec.req = .simple (.writeTag [.symbolic "A", .elem 1] 195 1 [7, 0]) := by
  refine ⟨⟨111, 44, 287454020, 0, [1, 2, 3, 4, 5, 6, 7, 8], 0⟩, writeFrame.drop 24, ⟨0, 5, _⟩, ?_, ?_, rfl⟩ <;>
    decide +kernel

/-- the witness at depth 3: one 6-byte request in 30 bytes of headers costs 36 + 26 + 16 + 6 = 84 symbols,
and the model's strict grammar does not accept it (a bundle is not a member of a bundle) -/
example : scanCost 10 (nest 3) = 84 ∧ (nest 3).length = 36 ∧ decodeReq (nest 3) = none := by decide +kernel

example : decodeReq (nest 1) = some (.multiple [.cls 2, .ins 1] [.getAttrAll [.cls 2, .ins 1]]) := by decide +kernel

/-- a machine with an epsilon cycle 0 → 1 → 0 that consumes nothing: with the crumb check the loop ends after
two passes (stasis); without it the loop runs for as long as it is given fuel -/
def cycle : Machine := { nstates := 2, step := fun s pos _ => some ((s + 1) % 2, pos) }

example : runCrumbs cycle [65, 66] 1000 [(0, 0)] (0, 0) = ⟨2, .stasis, (1, 0)⟩ := by decide +kernel

theorem runBlind_cycle (input : List Nat) (fuel : Nat) (c : Nat × Nat) (hc : c.2 ≤ input.length) :
    (runBlind cycle input fuel c).stop = .fuel ∧ (runBlind cycle input fuel c).passes = fuel := by
  induction fuel generalizing c with
  | zero => exact ⟨rfl, rfl⟩
  | succ n ih =>
    have hn : cycle.next input c = some ((c.1 + 1) % 2, c.2) := by
      simp only [Machine.next, cycle]
      exact if_pos ⟨Nat.mod_lt _ (by decide), hc⟩
    have ⟨h1, h2⟩ := ih ((c.1 + 1) % 2, c.2) hc
    simp only [runBlind, hn]
    exact ⟨h1, by rw [h2]⟩

example : (runBlind cycle [65, 66] 1000 (0, 0)).stop = .fuel ∧ (runBlind cycle [65, 66] 1000 (0, 0)).passes = 1000 :=
  runBlind_cycle _ _ _ (Nat.zero_le _)

end Cpppo.Serve
