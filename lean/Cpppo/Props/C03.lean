import Cpppo.Props.C04
import Cpppo.Props.C05
import Cpppo.Props.C07

/-!
# C03 — Tags behave as typed arrays: a read returns the most recently written values

About `Cpppo.Logix.execTag` / `execSimple` (model of `Logix.request`, `Object.request`), for every
device, every tag type and length, every path form, every index / count / offset / budget.
The "array" of a tag is `tag.vals`; a write of converted values `w` at element `b` replaces exactly
`vals[b .. b+|w|)` (`spliceAt`), and a read returns exactly `(vals.drop b).take k`.
-/
namespace Cpppo.Logix

/-- **A read returns the stored elements of the addressed range, with the tag's own CIP type**
(valid range, fragment offset `j` elements; status 0 on the last fragment, 6 before). -/
theorem read_returns_stored (d : Dev) (self : Nat × Nat) (svc : Nat) (isFrag : Bool) (p : Path)
    (n off c i a : Nat) (tag : Tag) (hr : resolveTag d self p = some (c, i, a, tag))
    (hv : tag.Vector) (hs : 0 < tag.ty.size) (j : Nat)
    (hoff : (if isFrag then off else 0) = j * tag.ty.size)
    (hfit : resolveElement p + n ≤ tag.vals.length) (hj : j < n) :
    execTag d self svc true isFrag p 0 n off [] =
      (d, { svc := svc
            status := if n - j ≤ fragCount d.maxBytes tag.ty.size then 0 else 6
            ty := some tag.ty
            vals := (tag.vals.drop (resolveElement p + j)).take (min (n - j) (fragCount d.maxBytes tag.ty.size)) }) := by
  unfold execTag
  rw [hr]
  simp only [↓reduceIte, hoff]
  rw [read_fragment tag hv d.maxBytes (resolveElement p) n j hs hfit hj]

/-- **A successful write stores exactly the converted values at the addressed elements**
(valid range, fragment offset `j` elements). -/
theorem write_stores (d : Dev) (self : Nat × Nat) (svc : Nat) (isFrag : Bool) (p : Path)
    (reqTy n off c i a : Nat) (data : Bytes) (tag : Tag) (w : List Val)
    (hr : resolveTag d self p = some (c, i, a, tag)) (hw : convWrite tag reqTy data = some w)
    (hv : tag.Vector) (hs : 0 < tag.ty.size) (j : Nat)
    (hoff : (if isFrag then off else 0) = j * tag.ty.size)
    (hfit : resolveElement p + n ≤ tag.vals.length) (hw1 : 1 ≤ w.length) (hj : j + w.length ≤ n) :
    execTag d self svc false isFrag p reqTy n off data =
      (d.setAttr c i a { tag with vals := spliceAt tag.vals (resolveElement p + j) w },
       { svc := svc, status := 0 }) := by
  unfold execTag
  rw [hr]
  simp only [Bool.false_eq_true, ↓reduceIte, hw, hoff]
  rw [write_fragment tag hv d.maxBytes (resolveElement p) n j w hs hfit hw1 hj]

/-- **A write changes only the addressed elements of the addressed tag**: every other address is
untouched, and inside the tag every element outside `[b, b+|w|)` keeps its value. -/
theorem write_frame (d : Dev) (c i a : Nat) (tag : Tag) (b : Nat) (w : List Val)
    (htag : d.attr? c i a = some tag) (hfit : b + w.length ≤ tag.vals.length) :
    let d' := d.setAttr c i a { tag with vals := spliceAt tag.vals b w }
    (∀ c' i' a', (c', i', a') ≠ (c, i, a) → d'.attr? c' i' a' = d.attr? c' i' a')
    ∧ (∃ t', d'.attr? c i a = some t' ∧ t'.ty = tag.ty ∧ t'.scalar = tag.scalar
        ∧ t'.vals.length = tag.vals.length
        ∧ ∀ k, t'.vals[k]? = if b ≤ k ∧ k < b + w.length then w[k - b]? else tag.vals[k]?) := by
  refine ⟨?_, ?_⟩
  · intro c' i' a' hne
    rw [Dev.attr?_setAttr, if_neg]
    intro h; apply hne; obtain ⟨rfl, rfl, rfl⟩ := h; rfl
  · refine ⟨{ tag with vals := spliceAt tag.vals b w }, ?_, rfl, rfl, spliceAt_length _ _ _ hfit,
      fun k => getElem?_spliceAt _ _ _ _ hfit⟩
    rw [Dev.attr?_setAttr, if_pos ⟨rfl, rfl, rfl⟩, htag]; rfl

theorem resolveTag_setAttr_same {d : Dev} {self : Nat × Nat} {p : Path} {c i a : Nat} {tag : Tag}
    (hr : resolveTag d self p = some (c, i, a, tag)) (t' : Tag) :
    resolveTag (d.setAttr c i a t') self p = some (c, i, a, t') := by
  have htag := (resolveTag_some hr).1
  unfold resolveTag at hr ⊢
  rw [Dev.setAttr_symbols]
  split at hr
  · cases hr
  · dsimp only at hr ⊢
    split at hr
    · cases hr
    · next hself =>
      rw [if_neg hself]
      split at hr
      · cases hr
      · cases hr
        rw [Dev.attr?_setAttr, if_pos ⟨rfl, rfl, rfl⟩, htag]
        rfl

/-- **Read-after-write: reading the elements just written returns the written values as represented in
the tag's type** (whole written range read back in one reply that fits the budget). -/
theorem write_then_read (d : Dev) (self : Nat × Nat) (p : Path) (reqTy n c i a : Nat) (data : Bytes)
    (tag : Tag) (w : List Val)
    (hr : resolveTag d self p = some (c, i, a, tag)) (hw : convWrite tag reqTy data = some w)
    (hv : tag.Vector) (hs : 0 < tag.ty.size)
    (hfit : resolveElement p + n ≤ tag.vals.length) (hwn : w.length = n) (hn : 1 ≤ n)
    (hbud : n ≤ fragCount d.maxBytes tag.ty.size) :
    let d' := (execTag d self svcWrTag false false p reqTy n 0 data).1
    (execTag d' self svcRdTag true false p 0 n 0 []).2 =
      { svc := svcRdTag, status := 0, ty := some tag.ty, vals := w } := by
  intro d'
  have hd' : d' = d.setAttr c i a { tag with vals := spliceAt tag.vals (resolveElement p) w } :=
    congrArg Prod.fst (write_stores d self svcWrTag false p reqTy n 0 c i a data tag w hr hw hv hs 0
      (Nat.zero_mul _).symm hfit (by omega) (by omega))
  have hl : (spliceAt tag.vals (resolveElement p) w).length = tag.vals.length :=
    spliceAt_length _ _ _ (by omega)
  rw [hd', read_returns_stored _ self svcRdTag false p n 0 c i a
    { tag with vals := spliceAt tag.vals (resolveElement p) w } (resolveTag_setAttr_same hr _) hv hs 0
    (Nat.zero_mul _).symm (hl ▸ hfit) hn]
  simp only [Dev.setAttr, Nat.sub_zero, Nat.add_zero, Nat.min_eq_left hbud, hbud, ↓reduceIte]
  -- the slice of the spliced list at the written position is what was written
  rw [spliceAt, List.append_assoc, List.drop_left' (List.length_take_of_le (by omega)), ← hwn, List.take_left]

/-- a tag name in the symbol table and the numeric path it stands for leave the loop of `resolve` in
the same state, whatever follows -/
theorem resolveGo_symbolic {syms : List (String × (Nat × Nat × Nat))} {name : String} {c i a : Nat}
    (hsym : lookupSym syms (lower name) = some (c, i, a)) (k : Nat) (tail : Path) :
    resolveGo syms (.dflt k) (.symbolic name :: tail) {}
      = resolveGo syms (.dflt k) (.cls c :: .ins i :: .attr a :: tail) {} := by
  have hname : ("" : String).isEmpty = true := rfl  -- `simp` does not evaluate it by itself
  simp [resolveGo, hsym, hname, isAttrSeg]

/-- **Symbolic and numeric addressing agree**: a tag name that the symbol table maps to
`(c, i, a)` designates the same attribute as the path `@c/i/a` (each followed by an optional element). -/
theorem symbolic_numeric_agree (d : Dev) (self : Nat × Nat) (name : String) (c i a : Nat) (tail : Path)
    (hsym : lookupSym d.symbols (lower name) = some (c, i, a))
    (htail : tail = [] ∨ ∃ e, tail = [.elem e]) :
    resolveTag d self (.symbolic name :: tail) = resolveTag d self (.cls c :: .ins i :: .attr a :: tail)
    ∧ resolveElement (.symbolic name :: tail) = resolveElement (.cls c :: .ins i :: .attr a :: tail) :=
  ⟨by unfold resolveTag resolve; rw [resolveGo_symbolic hsym], rfl⟩

/-- **Read Tag and Read Tag Fragmented at offset 0 return the same elements.** -/
theorem service_views_agree (d : Dev) (self : Nat × Nat) (p : Path) (n : Nat) :
    let r1 := (execTag d self svcRdTag true false p 0 n 0 []).2
    let r2 := (execTag d self svcRdFrg true true p 0 n 0 []).2
    r1.status = r2.status ∧ r1.ext = r2.ext ∧ r1.ty = r2.ty ∧ r1.vals = r2.vals := by
  unfold execTag
  simp only [↓reduceIte, Bool.false_eq_true]
  split
  · simp [errReply]
  · generalize tagAccess _ _ _ _ _ _ _ = acc
    cases acc <;> simp [errReply]

/-- **Get Attribute Single returns the whole array as the tag type's bytes.** -/
theorem get_attribute_single_whole (d : Dev) (self : Nat × Nat) (c i a : Nat) (tag : Tag) (bs : Bytes)
    (hself : (c, i) = self) (htag : d.attr? c i a = some tag) (hbs : tag.produce = some bs) :
    (execAttr d self (.getAttrSingle [.cls c, .ins i, .attr a])).2 = { svc := svcGaSng, status := 0, raw := bs } := by
  have hname : ("" : String).isEmpty = true := rfl
  unfold Dev.attr? at htag
  cases ho : d.obj? c i with
  | none => simp [ho] at htag
  | some o =>
    simp only [ho, Option.bind_some] at htag
    unfold execAttr
    -- `@c/i/a` resolves by computation; `hself`, `ho`, `htag`, `hbs` choose the branch that answers
    simp [resolve, resolveGo, hname, hself, ho, htag, hbs, List.getLast?]

/-! ### inversion: what a success status implies, with no assumption on the request -/

/-- **Any read answered with status 0 or 6 returned exactly a slice of the addressed tag's stored elements,
starting at `index + offset / size`, at least one element, inside the requested range; status 0 iff the
slice reaches the end of the requested range.**  (every tag, scalar or array; every path/count/offset) -/
theorem read_ok_inv (d : Dev) (self : Nat × Nat) (svc : Nat) (isFrag : Bool) (p : Path) (n off : Nat)
    (h : (execTag d self svc true isFrag p 0 n off []).2.status = 0
       ∨ (execTag d self svc true isFrag p 0 n off []).2.status = 6) :
    ∃ c i a tag beg k, resolveTag d self p = some (c, i, a, tag)
      ∧ beg = resolveElement p + (if isFrag then off else 0) / tag.ty.size
      ∧ 1 ≤ k ∧ beg + k ≤ resolveElement p + n ∧ resolveElement p + n ≤ tag.len
      ∧ (execTag d self svc true isFrag p 0 n off []).2.ty = some tag.ty
      ∧ (execTag d self svc true isFrag p 0 n off []).2.vals = (tag.vals.drop beg).take k
      ∧ ((execTag d self svc true isFrag p 0 n off []).2.status = 0 ↔ beg + k = resolveElement p + n) := by
  generalize hx : execTag d self svc true isFrag p 0 n off [] = x at h ⊢
  cases execTag_outcome hx with
  | read hr _ hacc =>
    obtain ⟨beg, k, h1, h2, h3, h4, h5, -, h7⟩ := tagAccess_read_inv hacc
    exact ⟨_, _, _, _, beg, k, hr, h1, h2, h3, h4, rfl, h5, h7⟩
  | wrote _ hrd => cases hrd
  | failed st _ hst => exact absurd h (by simp only [errReply]; omega)

/-- **Any write acknowledged with status 0 stored exactly the request's values, converted to the tag's type,
at elements `[beg, beg + |w|)` of the addressed tag — inside the tag and inside the declared range — and
changed nothing else.**  (every tag, scalar or array) -/
theorem write_ok_inv (d : Dev) (self : Nat × Nat) (svc : Nat) (isFrag : Bool) (p : Path) (reqTy n off : Nat)
    (data : Bytes) (h : (execTag d self svc false isFrag p reqTy n off data).2.status = 0) :
    ∃ c i a tag w beg, resolveTag d self p = some (c, i, a, tag) ∧ convWrite tag reqTy data = some w
      ∧ beg = resolveElement p + (if isFrag then off else 0) / tag.ty.size
      ∧ 1 ≤ w.length ∧ beg + w.length ≤ resolveElement p + n ∧ resolveElement p + n ≤ tag.len
      ∧ (execTag d self svc false isFrag p reqTy n off data).1
          = d.setAttr c i a { tag with vals := if tag.scalar then w.take 1 else spliceAt tag.vals beg w } := by
  generalize hx : execTag d self svc false isFrag p reqTy n off data = x at h ⊢
  cases execTag_outcome hx with
  | wrote hr _ hw hacc =>
    obtain ⟨beg, h1, h2, h3, h4, rfl⟩ := tagAccess_wrote_inv hacc
    exact ⟨_, _, _, _, _, beg, hr, hw, h1, h2, h3, h4, rfl⟩
  | read _ hrd => cases hrd
  | failed st _ hst => exact absurd h (by simp only [errReply]; omega)

/-! ### histories: the arrays have a fixed type and length forever -/

/-- the shape of a tag: element type, scalar flag, number of elements -/
def Tag.shape (t : Tag) : CipType × Bool × Nat := (t.ty, t.scalar, t.vals.length)

theorem execTag_shape (d : Dev) (hwf : d.WF) (self : Nat × Nat) (svc : Nat) (isRead isFrag : Bool) (p : Path)
    (reqTy n off : Nat) (data : Bytes) (c' i' a' : Nat) :
    ((execTag d self svc isRead isFrag p reqTy n off data).1.attr? c' i' a').map Tag.shape
      = (d.attr? c' i' a').map Tag.shape := by
  generalize hx : execTag d self svc isRead isFrag p reqTy n off data = x
  cases execTag_outcome hx with
  | wrote hr _ hw hacc =>
    have htag := (resolveTag_some hr).1
    obtain ⟨-, h1, h2, h3⟩ :=
      tagAccess_wrote_wf (hwf _ _ _ _ htag) (convWrite_canon hw) hacc
    rw [Dev.attr?_setAttr]
    split
    · next h => obtain ⟨rfl, rfl, rfl⟩ := h; rw [htag]; simp [Tag.shape, h1, h2, h3]
    · rfl
  | _ => rfl

/-- **After any sequence of Read/Write Tag [Fragmented] requests every tag still has its original
element type and length, and stays producible** (fixed-length typed arrays). -/
theorem history_shape (d : Dev) (hwf : d.WF) (ss : List Simple) (hs : ∀ s ∈ ss, isTagService s = true)
    (c i a : Nat) :
    ((runSingly d ss).1.attr? c i a).map Tag.shape = (d.attr? c i a).map Tag.shape ∧ (runSingly d ss).1.WF := by
  induction ss generalizing d with
  | nil => exact ⟨rfl, hwf⟩
  | cons s rest ih =>
    obtain ⟨hs1, hs⟩ := List.forall_mem_cons.mp hs
    have hstep : ((execSimple d s).1.attr? c i a).map Tag.shape = (d.attr? c i a).map Tag.shape := by
      unfold execSimple execSimpleAt
      cases s with
      | readTag | readFrag | writeTag | writeFrag => exact execTag_shape _ hwf ..
      | _ => cases hs1
    obtain ⟨h1, h2⟩ := ih (execSimple d s).1 (execSimple_preserves_wf d hwf s).1 hs
    simp only [runSingly]
    exact ⟨h1.trans hstep, h2⟩

/-- any sequence of reads leaves the device exactly as it was -/
theorem history_reads_pure (d : Dev) (ss : List Simple)
    (hs : ∀ s ∈ ss, match s with | .readTag .. | .readFrag .. => True | _ => False) :
    (runSingly d ss).1 = d := by
  induction ss generalizing d with
  | nil => rfl
  | cons s rest ih =>
    obtain ⟨hs1, hs⟩ := List.forall_mem_cons.mp hs
    have h1 : (execSimple d s).1 = d := by
      unfold execSimple execSimpleAt
      cases s with
      | readTag | readFrag => exact execTag_read_noop ..
      | _ => exact hs1.elim
    simp only [runSingly]
    rw [h1]
    exact ih d hs

/-! ### non-vacuity -/

example : (execSimple demoDev (.readTag [.symbolic "A", .elem 1] 2)).2.vals = [.int 2, .int 3] := by
  decide +kernel

example :
    let d' := (execSimple demoDev (.writeTag [.cls 2, .ins 1, .attr 1, .elem 1] 193 1 [255])).1
    (execSimple d' (.readTag [.symbolic "a"] 3)).2.vals = [.int 1, .int 1, .int 3] := by decide +kernel

end Cpppo.Logix
