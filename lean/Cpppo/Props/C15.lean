import Cpppo.Proofs.Route
import Cpppo.Proofs.RouteJson
import Cpppo.Generated.Tables

/-!
# C15 — Route-path filtering follows the configured device personality

Theorems about the model `Cpppo.Route` (`Model/Route.lean`), which mirrors `UCMM.request`'s acceptance
assertion, `main()`'s personality configuration, `client.unconnected_send`'s wrapper decision and
`device.parse_route_path` / `port_link`.

The accepted set is stated once (`accept_spec`) and read per personality; a refused request gets an error status,
no payload, and leaves the device and the rest of the session alone; every textual spelling of a route path ('p/l'
chains, the JSON spellings through the model's own `json.loads`) denotes the segments it spells, and so does what
`main()` and the client make of it.

`σ`, `ρ`, `π` (device state, request, reply payload) and `exec` are arbitrary: the inner request's
execution is an abstract partial function of state and request (`none` = the addressed object raised).
-/
namespace Cpppo.Route

/-! ## Which requests a personality accepts -/

/-- **The accepted set, exactly**: no configuration, or the request carries no route path or an empty
one, or exactly the configured list. -/
theorem accept_spec (cfg : Config) (rp : Option RoutePath) :
    accept cfg rp = true ↔
      cfg = .any ∨ rp = none ∨ rp = some [] ∨ ∃ p, cfg = .path p ∧ rp = some p := by
  cases cfg with
  | any => simp [accept]
  | falsy => rcases rp with _ | _ | _ <;> simp [accept, eqCfg, Config.truthy]
  | path p => rcases rp with _ | _ | _ <;> simp [accept, eqCfg]

/-- with no configuration every route path is accepted -/
theorem accept_unconfigured (rp : Option RoutePath) : accept .any rp = true := rfl

/-- the simple (non-routing) personalities: `False`/`0` (`-S`) or an empty list -/
def Config.Simple (cfg : Config) : Prop := cfg = .falsy ∨ cfg = .path []

/-- **a simple device accepts exactly the requests without a route path** (absent, or an empty one
inside the Unconnected Send wrapper) -/
theorem accept_simple (cfg : Config) (h : cfg.Simple) (rp : Option RoutePath) :
    accept cfg rp = true ↔ rp = none ∨ rp = some [] := by
  rcases h with rfl | rfl <;> simp [accept_spec]

/-- **a device configured with a route path accepts exactly: none, empty, or that very path** -/
theorem accept_path (p : RoutePath) (rp : Option RoutePath) :
    accept (.path p) rp = true ↔ rp = none ∨ rp = some [] ∨ rp = some p := by
  rw [accept_spec]; simp

/-- any non-empty request route path other than the configured one is refused -/
theorem refuse_mismatch (p q : RoutePath) (hq : q ≠ []) (hne : q ≠ p) : accept (.path p) (some q) = false := by
  simp [← Bool.not_eq_true, accept_path, hq, hne]

/-- a simple device refuses every non-empty route path -/
theorem refuse_simple (cfg : Config) (h : cfg.Simple) (q : RoutePath) (hq : q ≠ []) :
    accept cfg (some q) = false := by
  simp [← Bool.not_eq_true, accept_simple cfg h, hq]

/-- differing in one **port** -/
theorem refuse_port (pre post : RoutePath) (p p' : Int) (l : Link) (h : p' ≠ p) :
    accept (.path (pre ++ .pl p l :: post)) (some (pre ++ .pl p' l :: post)) = false :=
  refuse_mismatch _ _ (by simp) (by simp [h])

/-- differing in one **link** (number or address) -/
theorem refuse_link (pre post : RoutePath) (p : Int) (l l' : Link) (h : l' ≠ l) :
    accept (.path (pre ++ .pl p l :: post)) (some (pre ++ .pl p l' :: post)) = false :=
  refuse_mismatch _ _ (by simp) (by simp [h])

/-- differing in the **kind of link**: the number `n` and an address, even one spelling the same digits -/
theorem refuse_link_kind (pre post : RoutePath) (p : Int) (n : Int) (s : Text) :
    accept (.path (pre ++ .pl p (.num n) :: post)) (some (pre ++ .pl p (.addr s) :: post)) = false
    ∧ accept (.path (pre ++ .pl p (.addr s) :: post)) (some (pre ++ .pl p (.num n) :: post)) = false :=
  ⟨refuse_link pre post p _ _ (by simp), refuse_link pre post p _ _ (by simp)⟩

/-- differing in **length** (a prefix, an extension, …) -/
theorem refuse_length (p q : RoutePath) (hq : q ≠ []) (h : q.length ≠ p.length) :
    accept (.path p) (some q) = false :=
  refuse_mismatch p q hq (fun e => h (by rw [e]))

example : accept (.path [.pl 1 (.num 0), .pl 2 (.addr [49, 46, 50, 46, 51, 46, 52])])
    (some [.pl 1 (.num 0), .pl 2 (.addr [49, 46, 50, 46, 51, 46, 52])]) = true := by decide +kernel
example : accept (.path [.pl 1 (.num 0)]) (some [.pl 1 (.addr [48])]) = false := by decide
example : accept .falsy (some [.pl 1 (.num 0)]) = false := by decide
example : Config.Simple .falsy := Or.inl rfl

/-! ## A refused request: error status, no payload, nothing executed, nothing changed -/

section serve
variable {σ ρ π : Type} (exec : σ → ρ → Option (σ × π)) (cfg : Config) (st : σ)
  (rp : Option RoutePath) (req : ρ)

/-- **A refused request receives an error status, carries no payload and leaves the device exactly
as it was** — for every way of executing requests. -/
theorem refused_no_access (h : accept cfg rp = false) :
    serveWith exec cfg st rp req = (st, ⟨true, 8, none⟩) := by
  simp [serveWith, h]

/-- … in particular the outcome does not depend on `exec` at all: the request is never handed to
the addressed object (no execution step is taken, so no tag can be read or written) -/
theorem refused_ignores_exec (exec' : σ → ρ → Option (σ × π)) (h : accept cfg rp = false) :
    serveWith exec cfg st rp req = serveWith exec' cfg st rp req := by
  rw [refused_no_access exec cfg st rp req h, refused_no_access exec' cfg st rp req h]

theorem refused_status_ne_zero (h : accept cfg rp = false) :
    (serveWith exec cfg st rp req).2.status ≠ 0 ∧ (serveWith exec cfg st rp req).2.payload = none
    ∧ (serveWith exec cfg st rp req).1 = st := by
  rw [refused_no_access exec cfg st rp req h]; simp

/-- an accepted request is executed exactly once, on the current state, and its result is the reply -/
theorem accepted_executes (h : accept cfg rp = true) (st' : σ) (p : π) (he : exec st req = some (st', p)) :
    serveWith exec cfg st rp req = (st', ⟨true, 0, some p⟩) := by
  simp [serveWith, h, he]

-- branches of `serveWith`: 1 accepted and executed, 2 accepted but the addressed object raised, 3 refused
/-- **status 0 exactly when the route path is acceptable and the addressed object did not raise** -/
theorem status_zero_iff :
    (serveWith exec cfg st rp req).2.status = 0 ↔ accept cfg rp = true ∧ (exec st req).isSome = true := by
  fun_cases serveWith exec cfg st rp req <;> simp [*]

/-- whatever happens, a reply is produced (`proceed`), and the device changes only through `exec` -/
theorem serve_state (st1 : σ) (r : Reply π) (h : serveWith exec cfg st rp req = (st1, r)) :
    st1 = st ∨ ∃ p, exec st req = some (st1, p) := by
  revert h
  fun_cases serveWith exec cfg st rp req
  · next st' p he => exact fun h => Or.inr ⟨p, (Prod.mk.inj h).1 ▸ he⟩  -- executed
  · exact fun h => Or.inl (Prod.mk.inj h).1.symm  -- raised
  · exact fun h => Or.inl (Prod.mk.inj h).1.symm  -- refused

/-! ### the session afterwards (`enip_srv_tcp`: a non-zero status ends it) -/

/-- frames that are all served (one reply each) leave the rest of the session to run on the state they produce -/
theorem sessionWith_of_runAll (pre rest : List (Option RoutePath × ρ)) (st1 : σ)
    (hpre : runAll exec cfg st pre = some st1) :
    ∃ rs : List (Reply π), rs.length = pre.length ∧ sessionWith exec cfg st (pre ++ rest)
      = ((sessionWith exec cfg st1 rest).1, rs ++ (sessionWith exec cfg st1 rest).2) := by
  revert hpre
  fun_induction runAll exec cfg st pre with
  | case1 st => exact fun h => Option.some.inj h ▸ ⟨[], rfl, rfl⟩  -- no frame
  | case2 st rp req pre ha st' p he ih =>  -- accepted (`ha`) and executed (`he`)
    intro h
    obtain ⟨rs, hl, e⟩ := ih h
    exact ⟨⟨true, 0, some p⟩ :: rs, by simp [hl],
      by simp [sessionWith, accepted_executes exec cfg st rp req ha st' p he, e]⟩
  | case3 | case4 => exact nofun  -- raised; refused: not all served

/-- **After a refused frame nothing more is executed**: with frames `pre` all served, a refused
frame produces the last reply of the session (status 8) and every later frame `post` is ignored;
the device is as `pre` left it. -/
theorem session_ends_at_refusal (pre post : List (Option RoutePath × ρ)) (st1 : σ)
    (hpre : runAll exec cfg st pre = some st1) (h : accept cfg rp = false) :
    (sessionWith exec cfg st (pre ++ (rp, req) :: post)).1 = st1
    ∧ (sessionWith exec cfg st (pre ++ (rp, req) :: post)).2.length = pre.length + 1
    ∧ (sessionWith exec cfg st (pre ++ (rp, req) :: post)).2.getLast? = some ⟨true, 8, none⟩ := by
  obtain ⟨rs, hl, e⟩ := sessionWith_of_runAll exec cfg st pre ((rp, req) :: post) st1 hpre
  simp [e, sessionWith, refused_no_access exec cfg st1 rp req h, hl]

/-- all replies but the last have status 0: the session never continues past an error -/
theorem session_statuses (frames : List (Option RoutePath × ρ)) :
    ∀ r ∈ (sessionWith exec cfg st frames).2.dropLast, r.status = 0 := by
  fun_induction sessionWith exec cfg st frames with
  | case1 => simp  -- no frame
  | case2 _ _ _ _ _ r _ h0 _ rs hs ih =>
    -- status 0 (`h0`): the reply `r`, then the replies `rs` of the rest (`hs`); all but the last of `r :: rs` are
    -- `r` (unless `rs` is empty) and all but the last of `rs`
    rw [hs] at ih
    intro x hx
    cases rs with
    | nil => cases hx
    | cons y ys =>
      rw [List.dropLast_cons_cons, List.mem_cons] at hx
      exact hx.elim (· ▸ eq_of_beq h0) (ih x)
  | case3 => simp  -- error status: the only reply

end serve

/-! ## A device that also has a routing table

`UCMM.request` looks the request's first hop up in the routing table *before* the route-path test.  A hit
is forwarded (outside the property, `forward` is arbitrary); a miss is a local request and **must go
through the very same route-path test**, whatever the table contains. -/

section routed
variable {σ ρ π : Type} (exec : σ → ρ → Option (σ × π))
  (forward : σ → Text → Option RoutePath → ρ → σ × Reply π) (routes : List Text) (cfg : Config) (st : σ)
  (rp : Option RoutePath) (req : ρ)

/-- when the request is local: no table, no route path, a first segment that is not a port, or a first hop
the table does not list -/
theorem findRoute_none_iff :
    findRoute routes rp = none ↔
      rp = none ∨ rp = some [] ∨ ∃ s rest, rp = some (s :: rest) ∧ ∀ k, routeKey s = some k → k ∉ routes := by
  rcases rp with _ | _ | ⟨s, rest⟩
  · simp [findRoute]
  · simp [findRoute]
  · cases hk : routeKey s <;> simp [findRoute, hk]

/-- without a routing table every request is local -/
theorem findRoute_no_table : findRoute [] rp = none := by
  rcases rp with _ | _ | _ <;> simp [findRoute_none_iff]

/-- **a request that misses the table is filtered exactly like on a device without a table** -/
theorem local_when_table_misses (h : findRoute routes rp = none) :
    serveRouted exec forward routes cfg st rp req = serveWith exec cfg st rp req := by
  simp [serveRouted, h]

/-- **… so a configured route path is enforced whatever the routing table holds**: a request whose first
hop is not in the table and whose route path is not acceptable gets the error status, no payload, and
nothing is executed or forwarded -/
theorem refused_with_routing_table (hmiss : findRoute routes rp = none) (h : accept cfg rp = false) :
    serveRouted exec forward routes cfg st rp req = (st, ⟨true, 8, none⟩) := by
  rw [local_when_table_misses exec forward routes cfg st rp req hmiss, refused_no_access exec cfg st rp req h]

/-- … and neither the executor nor the forwarder is consulted -/
theorem refused_with_routing_table_ignores (exec' : σ → ρ → Option (σ × π))
    (forward' : σ → Text → Option RoutePath → ρ → σ × Reply π)
    (hmiss : findRoute routes rp = none) (h : accept cfg rp = false) :
    serveRouted exec forward routes cfg st rp req = serveRouted exec' forward' routes cfg st rp req := by
  rw [refused_with_routing_table exec forward routes cfg st rp req hmiss h,
    refused_with_routing_table exec' forward' routes cfg st rp req hmiss h]

/-- a hit is the forwarder's business only (the local executor is not consulted) -/
theorem forwarded_when_table_hits (k : Text) (h : findRoute routes rp = some k) :
    serveRouted exec forward routes cfg st rp req = forward st k rp req := by
  simp [serveRouted, h]

/-- a session on a device without a table is the session of the earlier sections -/
theorem sessionRouted_no_table (frames : List (Option RoutePath × ρ)) :
    sessionRouted exec forward [] cfg st frames = sessionWith exec cfg st frames := by
  induction frames generalizing st with
  | nil => rfl
  | cons f rest ih => simp only [sessionRouted, sessionWith, serveRouted, findRoute_no_table, ih]

/-- a refused local frame ends the session of a device with a table, too -/
theorem sessionRouted_refusal (post : List (Option RoutePath × ρ))
    (hmiss : findRoute routes rp = none) (h : accept cfg rp = false) :
    sessionRouted exec forward routes cfg st ((rp, req) :: post) = (st, [⟨true, 8, none⟩]) := by
  rw [sessionRouted, refused_with_routing_table exec forward routes cfg st rp req hmiss h]
  simp

end routed

/-- the hypotheses are satisfiable: configured 1/0, table {1/5}: 1/7 misses the table and is refused,
1/5 hits it -/
example : findRoute [[49, 47, 53]] (some [.pl 1 (.num 7)]) = none
    ∧ accept (.path [.pl 1 (.num 0)]) (some [.pl 1 (.num 7)]) = false
    ∧ findRoute [[49, 47, 53]] (some [.pl 1 (.num 5), .pl 1 (.num 0)]) = some [49, 47, 53] := by decide +kernel

/-! ### the concrete device of the differential runs: a refused write leaves every tag as it was -/

/-- **refused ⇒ tags and access log untouched, for every request (write, multiple, …)** and every routing
table the first hop is not in -/
theorem refused_tags_untouched (cfg : Config) (routes : List Text) (d : Dev) (rp : Option RoutePath) (toCM : Bool)
    (req : Req) (hmiss : findRoute routes rp = none) (h : accept cfg rp = false) :
    (serve cfg routes d rp toCM req).1 = d ∧ (serve cfg routes d rp toCM req).2.status = 8
      ∧ (serve cfg routes d rp toCM req).2.payload = none := by
  unfold serve
  rw [refused_with_routing_table _ _ routes cfg d _ _ hmiss h]
  simp

/-- non-vacuity: the same write is performed when the route path matches and is not when it differs —
with and without a routing table -/
example :
    (serve (.path [.pl 1 (.num 0)]) [] ⟨[[1, 2, 3, 4], [10, 20]], []⟩ (some [.pl 1 (.num 0)]) true
      (.single (.write 0 1 [77]))).1.tags = [[1, 77, 3, 4], [10, 20]]
    ∧ (serve (.path [.pl 1 (.num 0)]) [] ⟨[[1, 2, 3, 4], [10, 20]], []⟩ (some [.pl 1 (.num 1)]) true
      (.single (.write 0 1 [77]))).1 = ⟨[[1, 2, 3, 4], [10, 20]], []⟩
    ∧ (serve (.path [.pl 1 (.num 0)]) [[49, 47, 53]] ⟨[[1, 2, 3, 4], [10, 20]], []⟩ (some [.pl 1 (.num 7)]) true
      (.single (.write 0 1 [77]))).1 = ⟨[[1, 2, 3, 4], [10, 20]], []⟩
    ∧ (serve (.path [.pl 1 (.num 0)]) [[49, 47, 53]] ⟨[[1, 2, 3, 4], [10, 20]], []⟩ (some [.pl 1 (.num 0)]) true
      (.single (.write 0 1 [77]))).1.tags = [[1, 77, 3, 4], [10, 20]] := by decide +kernel

/-- an Unconnected Send that does not address a Connection Manager is not executed either, whatever
the personality and the route path (repo fix 080c990): error status, tags and access log untouched -/
theorem not_to_cm_untouched (cfg : Config) (routes : List Text) (d : Dev) (rp : Option RoutePath) (req : Req)
    (hmiss : findRoute routes rp = none) :
    (serve cfg routes d rp false req).1 = d ∧ (serve cfg routes d rp false req).2.status = 8
      ∧ (serve cfg routes d rp false req).2.payload = none := by
  cases ha : accept cfg rp <;> simp [serve, serveRouted, hmiss, serveWith, ha, execFrame]

/-- an unknown tag, when the route path is acceptable, is *answered* (status 0, a CIP error inside) and
the session goes on; when it is not acceptable the frame is refused like any other -/
example :
    (serve .falsy [] ⟨[[1, 2, 3, 4], [10, 20]], []⟩ (some []) true (.single (.unknown false))).2.status = 0
    ∧ (serve .falsy [] ⟨[[1, 2, 3, 4], [10, 20]], []⟩ (some [.pl 1 (.num 0)]) true (.single (.unknown false))).2.status = 8 := by
  decide +kernel

/-! ## Textual route paths denote the segments they spell -/

/-- **'port/link', chained 'p/l/p/l…' of any length, numeric and IPv4-address links**: parsing the
spelling gives back exactly the segments (no trailer). -/
theorem parse_route_spells (segs : List Seg) (hne : segs ≠ []) (hwf : ∀ s ∈ segs, s.WF) :
    parseRoutePath (renderSlash segs) = some segs := by
  -- not JSON: a number, then extra data
  have hjson : jsonLoads (renderSlash segs) = none := by
    obtain ⟨p, tail, ht⟩ := renderSlash_head segs hne hwf
    rw [ht]
    exact jsonLoads_number_slash p tail
  simp [parseRoutePath, parseRoute, hjson, slash_renderSlash segs hne hwf]

/-- the hypotheses are satisfiable: a three-hop path with numeric and address links -/
example : ∀ s ∈ [Seg.pl 1 (.num 0), .pl 2 (.addr [49, 48, 46, 48, 46, 48, 46, 50, 53, 53]), .pl 15 (.num (-2))],
    s.WF := by decide +kernel

example : parseRoutePath (renderSlash [.pl 1 (.num 0), .pl 2 (.addr [49, 48, 46, 48, 46, 48, 46, 50, 53, 53])])
    = some [.pl 1 (.num 0), .pl 2 (.addr [49, 48, 46, 48, 46, 48, 46, 50, 53, 53])] := by decide +kernel

/-- **JSON list of `{"port":p,"link":l}` objects**, any length: parses to the segments it spells -/
theorem parse_json_dicts_spells (segs : List Seg) (hne : segs ≠ []) (hwf : ∀ s ∈ segs, s.WF) :
    parseRoutePath (renderJsonList (segs.map renderSegDict)) = some segs :=
  parseRoutePath_of_list (spells_list renderSegDict segJV segs hne fun s hs => spells_segDict s (hwf s hs))
    (stage2_segs segs hwf)

/-- **a bare JSON object** `{"port":p,"link":l}` is en-listed -/
theorem parse_json_dict_spells (s : Seg) (hs : s.WF) : parseRoutePath (renderSegDict s) = some [s] := by
  have h2 : stage2 [segJV s] = ([s], []) := stage2_segs [s] (by simpa using hs)
  obtain ⟨p, l, rfl, _⟩ := hs.eq_pl
  simp [parseRoutePath, parseRoute, jsonLoads_of_spells (spells_segDict _ hs), segJV, finish] at h2 ⊢
  simp [h2]

/-- **JSON list of "p/l" strings**, any length -/
theorem parse_json_strings_spells (segs : List Seg) (hne : segs ≠ []) (hwf : ∀ s ∈ segs, s.WF) :
    parseRoutePath (renderJsonList (segs.map renderSegStr)) = some segs :=
  parseRoutePath_of_list (spells_list renderSegStr _ segs hne fun s hs => spells_segStr s (hwf s hs))
    (stage2_strs segs hwf)

/-- all spellings of the same segments denote the same route path -/
theorem spellings_agree (segs : List Seg) (hne : segs ≠ []) (hwf : ∀ s ∈ segs, s.WF) :
    parseRoutePath (renderSlash segs) = parseRoutePath (renderJsonList (segs.map renderSegDict))
    ∧ parseRoutePath (renderSlash segs) = parseRoutePath (renderJsonList (segs.map renderSegStr)) := by
  rw [parse_route_spells segs hne hwf, parse_json_dicts_spells segs hne hwf, parse_json_strings_spells segs hne hwf]
  exact ⟨rfl, rfl⟩

-- '[{"port":1,"link":"1.2.3.4"},{"port":2,"link":0}]' and '["1/1.2.3.4","2/0"]'
example : parseRoutePath (renderJsonList ([Seg.pl 1 (.addr [49, 46, 50, 46, 51, 46, 52]), .pl 2 (.num 0)].map renderSegDict))
    = some [.pl 1 (.addr [49, 46, 50, 46, 51, 46, 52]), .pl 2 (.num 0)] := by decide +kernel
example : renderJsonList ([Seg.pl 1 (.addr [49, 46, 50, 46, 51, 46, 52]), .pl 2 (.num 0)].map renderSegStr)
    = [91, 34, 49, 47, 49, 46, 50, 46, 51, 46, 52, 34, 44, 34, 50, 47, 48, 34, 93] := by decide +kernel

/-! ### … and so does what is configured from them: `main()` -/

/-- `--route-path p/l` configures exactly that single segment (with or without `-S`) -/
theorem main_route (s : Seg) (h : s.WF) (simple : Bool) :
    mainConfig (some (renderSlash [s])) simple = some (.path [s]) := by
  have hwf : ∀ x ∈ [s], x.WF := by simpa using h
  simp [mainConfig, renderSlash_isEmpty [s] (by simp) hwf, parse_route_spells [s] (by simp) hwf]

/-- `main()` insists on a single segment: a longer spelled path stops the start-up -/
theorem main_multi_refused (segs : List Seg) (hwf : ∀ s ∈ segs, s.WF) (hlen : 2 ≤ segs.length) (simple : Bool) :
    mainConfig (some (renderSlash segs)) simple = none := by
  have hne : segs ≠ [] := fun e => by simp [e] at hlen
  have h1 : (segs.length == 1) = false := by simp; omega
  simp [mainConfig, renderSlash_isEmpty segs hne hwf, parse_route_spells segs hne hwf, hne, h1]

/-- `-S` alone, or an empty `--route-path`, is the simple personality; neither flag is "any" -/
theorem main_simple : mainConfig none true = some .falsy ∧ mainConfig (some []) false = some .falsy
    ∧ mainConfig none false = some .any := ⟨rfl, rfl, rfl⟩

/-- a `[UCMM] Route Path = p/l/…` configuration entry gives exactly that personality (any length: the
single-segment restriction is `main()`'s, not the UCMM's), and no entry gives "any" -/
theorem file_config_spelled (segs : List Seg) (hne : segs ≠ []) (hwf : ∀ s ∈ segs, s.WF) :
    fileConfig (some (renderSlash segs)) = some (.path segs) ∧ fileConfig none = some .any := by
  simp [fileConfig, parse_route_spells segs hne hwf]

/-! ### … and what a client request carries -/

/-- a client that disables the route path (`route_path=False/0/[]`, as `-S` does) is accepted by
**every** personality, with or without the Unconnected Send wrapper -/
theorem client_simple_always_accepted (s : SendArg) (cfg : Config) :
    ∃ rp, clientCarried .falsy s = some rp ∧ accept cfg rp = true := by
  cases s <;> exact ⟨_, rfl, by simp [accept_spec]⟩

/-- a client spelling a route path carries exactly those segments … -/
theorem client_carries_spelled (segs : List Seg) (hne : segs ≠ []) (hwf : ∀ s ∈ segs, s.WF) :
    clientCarried (.text (renderSlash segs)) .dflt = some (some segs) := by
  simp [clientCarried, renderSlash_isEmpty segs hne hwf, parse_route_spells segs hne hwf]

/-- a connector whose `route_path_default` was configured (on the class or the instance) carries **that**
route path when an operation names none — not the library's '1/0' -/
theorem client_configured_default (segs : List Seg) (hne : segs ≠ []) (hwf : ∀ s ∈ segs, s.WF) :
    clientCarried (.dfltAs (renderSlash segs)) .dflt = some (some segs) := by
  simpa [clientCarried] using client_carries_spelled segs hne hwf

/-- the unconfigured connector is the special case `route_path_default = '1/0'`, and a falsy default
sends no route path at all (accepted by every personality) -/
theorem client_default_is_configured_default (s : SendArg) :
    clientCarried .dflt s = clientCarried (.dfltAs routeDefault) s
    ∧ clientCarried (.dfltAs []) s = clientCarried .falsy s := ⟨rfl, rfl⟩

/-- … so a device configured (through `main()`) with the single segment `s` accepts a client that
spells `segs` iff `segs = [s]` -/
theorem spelled_end_to_end (s : Seg) (hs : s.WF) (segs : List Seg) (hne : segs ≠ []) (hwf : ∀ x ∈ segs, x.WF)
    (simple : Bool) :
    ∃ cfg rp, mainConfig (some (renderSlash [s])) simple = some cfg
      ∧ clientCarried (.text (renderSlash segs)) .dflt = some rp
      ∧ (accept cfg rp = true ↔ segs = [s]) := by
  exact ⟨_, _, main_route s hs simple, client_carries_spelled segs hne hwf, by simp [accept_path, hne]⟩

/-- the default client (route path '1/0') is accepted exactly by the unconfigured device and the one
configured with port 1, link 0 -/
theorem client_default : clientCarried .dflt .dflt = some (some [.pl 1 (.num 0)]) := by decide +kernel

/-- tie to the live source: the model's default route path is `client.route_path_default`, and the
default send path is non-empty (so the default client always uses the Unconnected Send wrapper) -/
theorem generated_client_defaults :
    Generated.clientRouteDefault = routeDefault ∧ Generated.clientSendDefault ≠ [] := by decide

/-! ### behaviour outside the statement, pinned as the code has it (see notes/C15.md) -/

/-- JSON scalars are refused by `parse_route_path` (the documented `--route-path=0/false/null` raises) -/
example : parseRoutePath [48] = none ∧ parseRoutePath [102, 97, 108, 115, 101] = none
    ∧ parseRoutePath [110, 117, 108, 108] = none := by decide +kernel

end Cpppo.Route
