import Cpppo.Proofs.Tnet

/-!
# C20 — tnetstring serialisation round-trips and the streaming parser agrees with it

Theorems about the model `Cpppo.Tnet` (`dump`, `parse` mirror `server/tnetstrings.py`; `step`/`feed`/
`feedChunks` mirror `tnet_machine` under `tnet_from` of `server/tnet.py`).

Quantification: every value `v : TVal` (integers of any size, float tokens, booleans, null, byte
strings of any content and length, text of any Unicode scalar values, lists and string-keyed
dictionaries nested to any depth) with `wf v` (decidable: float token has the `str(float)` shape,
text is encodable by the codec `e` given as `encoding=` to both `dump` and `parse` -- utf-8, latin-1,
ascii, utf-16 are modelled -- dictionary keys are ASCII and distinct); every following data `rest` /
`tail`; every chunking; every set `ign` of `ignore=` separator symbols that contains no digit and every
run of such separators between messages.  Nothing is bounded.

The stream model mirrors `tnet_from` of /repo commit 73bcf5b, which skips a separator wherever it arrives; the code
before that commit (`feedChunksOld`) is shown to depend on the chunking (`ignore_old_depends_on_chunking`).
-/
namespace Cpppo.Tnet

/-- **`parse(dump(v, encoding=e) + rest, encoding=e) == (v, rest)`**: parsing a serialised value followed by any further
data returns exactly that value (same constructors = same Python types), and exactly the further
data; for any nesting depth, any container size, any payload bytes. -/
theorem parse_dump (e : Enc) (v : TVal) (h : wf e v = true) (rest : Bytes) :
    parse e (dump e v ++ rest) = some (v, rest) := by
  have := size_lt_dump e v
  exact (parse_dump_fuel _).1 e v rest h (by simp only [List.length_append]; omega)

/-- **`parse(dump(v)) == (v, b'')`: the whole string is consumed.** -/
theorem parse_dump_whole (e : Enc) (v : TVal) (h : wf e v = true) : parse e (dump e v) = some (v, []) := by
  simpa using parse_dump e v h []

/-- `dump` is injective on well-formed values (an immediate consequence, stated because it is what
"equal value of the same types" needs: two different values never share a serialisation). -/
theorem dump_injective (e : Enc) (v w : TVal) (hv : wf e v = true) (hw : wf e w = true)
    (h : dump e v = dump e w) :
    v = w := by
  have h1 := parse_dump_whole e v hv
  have h2 := parse_dump_whole e w hw
  rw [h, h2] at h1
  simpa using h1.symm

mutual
private theorem encodable_of_wf (e : Enc) : ∀ v : TVal, wf e v = true → encodable e v = true
  | .int _, _ | .float _, _ | .bool _, _ | .null, _ | .bytes _, _ => rfl
  | .text _, h => h
  | .list vs, h => encodableList_of_wf e vs h
  | .dict kvs, h => encodableDict_of_wf e kvs h
private theorem encodableList_of_wf (e : Enc) : ∀ vs : TList, wfList e vs = true → encodableList e vs = true
  | .nil, _ => rfl
  | .cons v vs, h => by
    simp only [wfList, Bool.and_eq_true] at h
    simp [encodableList, encodable_of_wf e v h.1, encodableList_of_wf e vs h.2]
private theorem encodableDict_of_wf (e : Enc) : ∀ kvs : TDict, wfDict e kvs = true → encodableDict e kvs = true
  | .nil, _ => rfl
  | .cons k v kvs, h => by
    simp only [wfDict, Bool.and_eq_true] at h
    obtain ⟨⟨⟨hk, _⟩, hv⟩, hd⟩ := h
    simp [encodableDict, hk, encodable_of_wf e v hv, encodableDict_of_wf e kvs hd]
end

/-- **`dump` does not raise on a well-formed value** (the model's `dump?` is `none` exactly where the
code raises UnicodeEncodeError: text the codec cannot encode, non-ASCII dictionary keys). -/
theorem dump_defined (e : Enc) (v : TVal) (h : wf e v = true) : dump? e v = some (dump e v) := by
  simp [dump?, encodable_of_wf e v h]

/-- **Only the length prefix delimits a payload**: whatever bytes the payload holds (digits, colons,
type tags, a complete tnetstring, ...), `parse_payload` of a framed payload followed by anything
returns that payload, its type byte and the remainder.  No hypothesis on `p`. -/
theorem payload_delimited_by_length (p : Bytes) (t : Nat) (rest : Bytes) :
    parsePayload (frame p t ++ rest) = some (p, t, rest) :=
  parsePayload_frame p t rest

/-- every serialisation is such a frame: decimal length of the payload, `:`, payload, type byte -/
theorem dump_is_frame (e : Enc) (v : TVal) : ∃ p t, dump e v = frame p t ∧ isType t = true := by
  cases v with
  | int i => exact ⟨_, 35, rfl, rfl⟩
  | float tok => exact ⟨_, 94, rfl, rfl⟩
  | bool b => exact ⟨_, 33, rfl, rfl⟩
  | null => exact ⟨[], 126, dump_null e, rfl⟩
  | bytes bs => exact ⟨_, 44, rfl, rfl⟩
  | text cps => exact ⟨_, 36, rfl, rfl⟩
  | list vs => exact ⟨_, 93, rfl, rfl⟩
  | dict kvs => exact ⟨_, 125, rfl, rfl⟩

/-! ## The streaming parser

`ign` is the `ignore=` option of `tnet_from`: symbols skipped between messages (`[]` = none).  The
machine decodes `$` payloads as utf-8 whatever codec `dump` was given, so the stream theorems are
about `dump .utf8` and `parse .utf8`. -/

/-- the types `tnet_parser.process` converts -/
def streamOk : TVal → Bool
  | .int _ | .bytes _ | .text _ | .null => true
  | _ => false

/-- **Chunk independence**: feeding the blocks one by one is feeding their concatenation; hence two
chunkings of the same bytes give the same messages, the same `sent` counts and the same state --
with or without `ignore=` separators, wherever the block boundaries fall. -/
theorem stream_chunking (ign : Bytes) (r : Run) (chunks : List Bytes) :
    feedChunks ign r chunks = feed ign r chunks.flatten := by
  induction chunks generalizing r with
  | nil => rfl
  | cons c cs ih => rw [List.flatten_cons, feed_append]; exact ih (feed ign r c)

theorem stream_chunking_irrelevant (ign : Bytes) (r : Run) (c₁ c₂ : List Bytes)
    (h : c₁.flatten = c₂.flatten) : feedChunks ign r c₁ = feedChunks ign r c₂ := by
  rw [stream_chunking, stream_chunking, h]

private theorem convert_dump (v : TVal) (h : wf .utf8 v = true) (hs : streamOk v = true) :
    ∃ p t, dump .utf8 v = frame p t ∧ isType t = true ∧ convert t p = some v := by
  cases v with
  | int i => exact ⟨_, 35, rfl, rfl, by simp [convert, pyInt_intDec]⟩
  | bytes bs => exact ⟨_, 44, rfl, rfl, rfl⟩
  | text cps =>
    simp only [wf, encOk] at h
    exact ⟨_, 36, rfl, rfl, by simp [convert, encText, utf8Dec_enc cps h]⟩
  | null => exact ⟨[], 126, dump_null _, rfl, rfl⟩
  | float _ | bool _ | list _ | dict _ => simp [streamOk] at hs

/-- **One message, any following data**: started at a message boundary (any messages `out` already
delivered, `s` symbols already consumed), the machine fed `dump v ++ tail` delivers exactly the
payload `v` -- the value `parse` returns (`parse_dump`) -- records `sent = s + len(dump v)`, i.e. it
has consumed exactly the message, and continues on `tail` from a message boundary. -/
theorem stream_agrees (ign : Bytes) (hi : IgnOk ign) (v : TVal) (h : wf .utf8 v = true)
    (hs : streamOk v = true) (out : List (TVal × Nat)) (s : Nat) (tail : Bytes) :
    feed ign ⟨.start, out, s⟩ (dump .utf8 v ++ tail)
      = feed ign ⟨.start, out ++ [(v, s + (dump .utf8 v).length)], s + (dump .utf8 v).length⟩ tail
    ∧ parse .utf8 (dump .utf8 v ++ tail) = some (v, tail) := by
  obtain ⟨p, t, hd, ht, hc⟩ := convert_dump v h hs
  refine ⟨?_, parse_dump .utf8 v h tail⟩
  rw [hd, feed_append, feed_frame ign hi]
  simp only [step, ht, hc, if_true, frame_length, ← Nat.add_assoc]

/-- **Separators between messages** (`ignore=`): a run of ignorable symbols at a message boundary is
consumed, delivers nothing and leaves the machine at a message boundary -- however long the run is
and wherever in it the block boundaries fall (by `stream_chunking`). -/
theorem stream_separators (ign : Bytes) (seps : Bytes) (h : ∀ b ∈ seps, ign.contains b = true)
    (out : List (TVal × Nat)) (s : Nat) (tail : Bytes) :
    feed ign ⟨.start, out, s⟩ (seps ++ tail) = feed ign ⟨.start, out, s + seps.length⟩ tail := by
  rw [feed_append, feed_start_seps ign seps h]

/-- the stream `seps₁ dump(v₁) seps₂ dump(v₂) …` -/
def dumpAll : List (Bytes × TVal) → Bytes
  | [] => []
  | (seps, v) :: vs => seps ++ (dump .utf8 v ++ dumpAll vs)

/-- the messages and `sent` values expected from it, starting at `s` -/
def expected (s : Nat) : List (Bytes × TVal) → List (TVal × Nat)
  | [] => []
  | (seps, v) :: vs =>
    (v, s + seps.length + (dump .utf8 v).length) :: expected (s + seps.length + (dump .utf8 v).length) vs

/-- **A stream of messages, each preceded by any run of `ignore=` separators, in any chunking,
followed by any data**: the machine delivers each payload in order, each with `sent` exactly at the
end of that message, and then runs on the tail from a message boundary. -/
theorem stream_messages (ign : Bytes) (hi : IgnOk ign) (vs : List (Bytes × TVal))
    (h : ∀ sv ∈ vs, (∀ b ∈ sv.1, ign.contains b = true) ∧ wf .utf8 sv.2 = true ∧ streamOk sv.2 = true)
    (tail : Bytes) (chunks : List Bytes) (hc : chunks.flatten = dumpAll vs ++ tail)
    (out : List (TVal × Nat)) (s : Nat) :
    feedChunks ign ⟨.start, out, s⟩ chunks
      = feed ign ⟨.start, out ++ expected s vs, s + (dumpAll vs).length⟩ tail := by
  rw [stream_chunking, hc]
  clear hc
  induction vs generalizing out s with
  | nil => simp [dumpAll, expected]
  | cons sv vs ih =>
    obtain ⟨seps, v⟩ := sv
    obtain ⟨hv, hvs⟩ := List.forall_mem_cons.mp h
    simp only [dumpAll, List.append_assoc]
    rw [stream_separators ign seps hv.1, (stream_agrees ign hi v hv.2.1 hv.2.2 out _ _).1,
      ih hvs]
    simp only [expected, List.append_assoc, List.singleton_append, List.length_append, Nat.add_assoc]

/-- whatever follows, the messages delivered so far stay delivered, unchanged and in order -/
theorem stream_delivered_stable (ign : Bytes) (r : Run) (bs : Bytes) :
    ∃ more, (feed ign r bs).out = r.out ++ more := by
  induction bs generalizing r with
  | nil => exact ⟨[], (List.append_nil _).symm⟩
  | cons b bs ih =>
    obtain ⟨m1, h1⟩ := step_out_prefix ign r b
    obtain ⟨m2, h2⟩ := ih (step ign r b)
    exact ⟨m1 ++ m2, by rw [feed_cons, h2, h1, List.append_assoc]⟩

/-- **Corollary (the observable statement)**: for any chunking of
`seps₁ dump v₁ … sepsₙ dump vₙ tail` the list of `(payload, sent)` pairs yielded by a fresh machine
starts with exactly `(vᵢ, end position of message i)`. -/
theorem stream_yields (ign : Bytes) (hi : IgnOk ign) (vs : List (Bytes × TVal))
    (h : ∀ sv ∈ vs, (∀ b ∈ sv.1, ign.contains b = true) ∧ wf .utf8 sv.2 = true ∧ streamOk sv.2 = true)
    (tail : Bytes) (chunks : List Bytes) (hc : chunks.flatten = dumpAll vs ++ tail) :
    ∃ more, (feedChunks ign {} chunks).out = expected 0 vs ++ more := by
  rw [stream_messages ign hi vs h tail chunks hc [] 0]
  exact stream_delivered_stable ign _ tail

/-- **The types the machine does not convert** (`!` bool, `^` float, `]` list, `}` dict): the frame is
consumed, no message is delivered and the run fails (AssertionError in `tnet_parser.process`). -/
theorem stream_unsupported (ign : Bytes) (hi : IgnOk ign) (v : TVal) (hs : streamOk v = false)
    (out : List (TVal × Nat)) (s : Nat) :
    (feed ign ⟨.start, out, s⟩ (dump .utf8 v)).st = .failed
      ∧ (feed ign ⟨.start, out, s⟩ (dump .utf8 v)).out = out := by
  cases v with
  | float tok => exact feed_frame_bad ign hi tok 94 rfl out s
  | bool b => exact feed_frame_bad ign hi (boolTok b) 33 rfl out s
  | list vs => exact feed_frame_bad ign hi (dumpList .utf8 vs) 93 rfl out s
  | dict kvs => exact feed_frame_bad ign hi (dumpDict .utf8 kvs) 125 rfl out s
  | int _ | bytes _ | text _ | null => simp [streamOk] at hs

/-- **Agreement with `parse` on every input, not only on `dump` output.**  `scan1 ign s data` is the
machine's run from a message boundary up to its first message (`scanFrom_feed` from `.start` is that fact).
Whenever the machine delivers a first message `(v, m)` from `data`, then `data` is a run of
`ignore=` separators followed by a `body` on which `parse` returns the same value `v` and the same
remaining input, and `m - s` is exactly the separators plus the bytes `parse` consumed; when it
delivers none (input incomplete, or a failure), nothing is added to the delivered list.
(The converse fails by design: `parse` also accepts what Python's `int()` accepts as a length --
sign, spaces, underscores -- and the types `! ^ ] }`, see the examples.) -/
theorem stream_first_message_is_parse (ign : Bytes) (data : Bytes) (out : List (TVal × Nat)) (s : Nat) :
    match scan1 ign s data with
    | some (v, m, rest) =>
        feed ign ⟨.start, out, s⟩ data = feed ign ⟨.start, out ++ [(v, m)], m⟩ rest
        ∧ (∃ seps body, data = seps ++ body ∧ (∀ b ∈ seps, ign.contains b = true)
            ∧ parse .utf8 body = some (v, rest))
        ∧ m + rest.length = s + data.length
    | none => (feed ign ⟨.start, out, s⟩ data).out = out := by
  have h1 := scanFrom_feed ign data .start s out
  simp only [scanFrom] at h1
  cases h : scan1 ign s data with
  | none => simpa [h] using h1
  | some r =>
    obtain ⟨v, m, rest⟩ := r
    simp only [h] at h1
    exact ⟨h1, scan1_parse ign data s h⟩

/-! ### The code before /repo commit 73bcf5b depends on the chunking

With `ignore=b'\n'` the stream `1:a,\n1:b,` delivered in one block yields `a` and `b`; the same bytes
delivered as `1:a,` then `\n1:b,` yield `a` and then fail (the separator reaches SIZE: NonTerminal).
This is the replay used against the implementation. -/
theorem ignore_old_depends_on_chunking :
    [[49, 58, 97, 44, 10, 49, 58, 98, 44]].flatten = [[49, 58, 97, 44], [10, 49, 58, 98, 44]].flatten
    ∧ (feedChunksOld [10] {} [[49, 58, 97, 44, 10, 49, 58, 98, 44]]).run
        = ⟨.start, [(.bytes [97], 4), (.bytes [98], 9)], 9⟩
    ∧ (feedChunksOld [10] {} [[49, 58, 97, 44], [10, 49, 58, 98, 44]]).run
        = ⟨.failed, [(.bytes [97], 4)], 4⟩
    ∧ feedChunks [10] {} [[49, 58, 97, 44], [10, 49, 58, 98, 44]]
        = feedChunks [10] {} [[49, 58, 97, 44, 10, 49, 58, 98, 44]] := by
  decide +kernel

/-- the same code never skipped the symbol 0 (`source.peek()` is falsy), and never skipped a
separator in front of the very first message of a connection -/
theorem ignore_old_nul_and_leading :
    (feedChunksOld [0] {} [[49, 58, 97, 44, 0, 49, 58, 98, 44]]).run.st = .failed
    ∧ (feedChunksOld [10] {} [[10, 49, 58, 97, 44]]).run.st = .failed
    ∧ (feedChunks [0] {} [[49, 58, 97, 44, 0, 49, 58, 98, 44]]).out = [(.bytes [97], 4), (.bytes [98], 9)]
    ∧ (feedChunks [10] {} [[10, 49, 58, 97, 44]]).out = [(.bytes [97], 5)] := by
  decide +kernel

/-! ## Non-vacuity and witnesses (`decide` on samples: tests of the definitions, not theorems) -/

example : scan1 [] 0 [48, 51, 58, 97, 98, 99, 44, 57] = some (.bytes [97, 98, 99], 7, [57]) := by
  decide +kernel                                                                -- b'03:abc,9'
example : scan1 [] 0 [51, 58, 97, 98] = none := by decide +kernel                -- incomplete
example : scan1 [13, 10] 0 [13, 10, 10, 49, 58, 97, 44, 13] = some (.bytes [97], 7, [13]) := by
  decide +kernel                                                                -- b'\r\n\n1:a,\r'

/-- a nested value: `{"a:1": [-5, "é€😀", b"3:x,", 1.5e-07, True, None], "": {}}` -/
def sample : TVal :=
  .dict (.cons [97, 58, 49]
      (.list (.cons (.int (-5)) (.cons (.text [233, 8364, 128512]) (.cons (.bytes [51, 58, 120, 44])
        (.cons (.float [49, 46, 53, 101, 45, 48, 55]) (.cons (.bool true) (.cons .null .nil)))))))
    (.cons [] (.dict .nil) .nil))

example : wf .utf8 sample = true := by decide
example : parse .utf8 (dump .utf8 sample ++ [49, 58]) = some (sample, [49, 58]) := by decide +kernel
example : dump? .utf8 sample = some (dump .utf8 sample) := by decide +kernel
/-- `sample` under utf-16 (every text carries its BOM) -/
example : wf .utf16 sample = true ∧ parse .utf16 (dump .utf16 sample ++ [49]) = some (sample, [49]) := by
  decide +kernel
/-- non-ASCII text below a dictionary below a list, for the round trip under latin-1 -/
def sampleLatin : TVal := .list (.cons (.dict (.cons [107] (.text [99, 97, 102, 233]) .nil)) .nil)
example : wf .latin1 sampleLatin = true
    ∧ parse .latin1 (dump .latin1 sampleLatin) = some (sampleLatin, [])
    ∧ dump .latin1 sampleLatin ≠ dump .utf8 sampleLatin := by decide +kernel
/-- the codec must be able to encode the text: `'€'.encode('latin-1')` raises -/
example : dump? .latin1 (.text [8364]) = none ∧ dump? .ascii (.text [233]) = none := by decide

/-- payload that is itself a tnetstring followed by digits and a colon -/
example : parse .utf8 (dump .utf8 (.bytes [51, 58, 97, 98, 99, 44, 49, 50, 58]) ++ [55]) =
    some (.bytes [51, 58, 97, 98, 99, 44, 49, 50, 58], [55]) := by decide +kernel

/-- the stream hypotheses are satisfiable; three messages split inside a length prefix, inside a
multi-byte character and before a type byte, followed by the start of a further message -/
example : feedChunks [] {} [[49], [58, 55, 35, 50, 58, 195], [169], [36, 48, 58], [126, 49, 50, 58, 97]]
    = ⟨.data 11 [97], [(.int 7, 4), (.text [233], 9), (.null, 12)], 16⟩ := by decide +kernel
example : dumpAll [([], .int 7), ([], .text [233]), ([], .null)] ++ [49, 50, 58, 97]
    = [[49], [58, 55, 35, 50, 58, 195], [169], [36, 48, 58], [126, 49, 50, 58, 97]].flatten := by
  decide +kernel
example : ∀ sv ∈ [(([] : Bytes), TVal.int 7), ([], .text [233]), ([], .null)],
    (∀ b ∈ sv.1, ([] : Bytes).contains b = true) ∧ wf .utf8 sv.2 = true ∧ streamOk sv.2 = true := by decide

-- the next three: `ignore=b'\r\n'`, CR LF after the first message, a blank line before the third, blocks cut
-- between CR and LF and in front of a separator
example : IgnOk [13, 10] := by decide
example : feedChunks [13, 10] {} [[49, 58, 97, 44, 13], [10, 49, 58, 98, 44], [10, 10, 48, 58, 126]]
    = ⟨.start, [(.bytes [97], 4), (.bytes [98], 10), (.null, 15)], 15⟩ := by decide +kernel
example : dumpAll [([], .bytes [97]), ([13, 10], .bytes [98]), ([10, 10], .null)]
    = [[49, 58, 97, 44, 13], [10, 49, 58, 98, 44], [10, 10, 48, 58, 126]].flatten := by decide +kernel
/-- `IgnOk` is needed: an ignorable digit eats the length prefix -/
example : (feed [49] {} [49, 58, 97, 44]).st = .failed := by decide +kernel

/-- text that begins with U+FEFF (bytes EF BB BF) is ordinary text: neither `parse` nor the machine strips
a "byte order mark" (an instance of `stream_agrees`; U+FEFF is a scalar value) -/
example : wf .utf8 (.text [65279, 97]) = true
    ∧ (feed [] {} (dump .utf8 (.text [65279, 97]))).out = [(.text [65279, 97], 7)]
    ∧ parse .utf8 (dump .utf8 (.text [65279, 97])) = some (.text [65279, 97], []) := by decide +kernel

/-- a tail beginning with a digit is not swallowed by the greedy SIZE of the previous message -/
example : (feed [] {} (dump .utf8 (.bytes [120]) ++ [53])).out = [(.bytes [120], 4)] := by decide +kernel

/-- the hypotheses of `parse_dump` are needed: a repeated key cannot come back twice ... -/
example : parse .utf8 (dump .utf8 (.dict (.cons [97] (.int 1) (.cons [97] (.int 2) .nil))))
    = some (.dict (.cons [97] (.int 2) .nil), []) := by decide +kernel
/-- ... a surrogate code point is not encodable (the code raises), ... -/
example : dump? .utf8 (.text [0xD800]) = none := by decide
/-- ... and neither is a non-ASCII dictionary key. -/
example : dump? .utf8 (.dict (.cons [233] .null .nil)) = none := by decide

/-- mirrored quirks of `parse` on input that `dump` never produces -/
example : parse .utf8 [48, 51, 58, 97, 98, 99, 44] = some (.bytes [97, 98, 99], []) := by decide +kernel   -- b'03:abc,'
example : parse .utf8 [32, 43, 51, 32, 58, 97, 98, 99, 44] = some (.bytes [97, 98, 99], []) := by decide +kernel -- b' +3 :abc,'
example : parse .utf8 [53, 58, 102, 97, 108, 115, 120, 33] = some (.bool false, []) := by decide +kernel   -- b'5:falsx!'
example : parse .utf8 [45, 49, 58, 97, 44] = none := by decide +kernel                                    -- b'-1:a,'
example : parse .utf8 [50, 58, 237, 160, 36] = none := by decide +kernel            -- truncated/surrogate UTF-8
example : parse .utf16 [51, 58, 255, 254, 97, 36] = none := by decide +kernel       -- odd utf-16 length
/-- the machine is stricter than `parse` about the length prefix: digits only -/
example : (feed [] {} [32, 51, 58, 97, 98, 99, 44]).st = .failed := by decide +kernel

end Cpppo.Tnet
