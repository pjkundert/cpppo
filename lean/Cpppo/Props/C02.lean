import Cpppo.Proofs.Framing
import Cpppo.Generated.Tables

/-!
# C02 — Message framing ignores stream segmentation; an incomplete frame has no effect

Model: `Cpppo.Framing` (Model/Framing.lean).  Three descriptions of the framer are related:

* `frames`  — the specification: cut `24 + <declared length>` bytes off the front of the whole stream;
* `mrun`/`mrunAll` — the shape of the code: one symbol at a time, state = the symbols of the frame in
  progress, fed block by block as `recv` delivers them (this is what the correspondence check runs
  against the real `enip_machine` on a chained source);
* `feed`/`feedAll` — a buffering framer (pending bytes ++ block, re-split).

and a connection (`serveChunks`, the receive loop of `enip_srv_tcp`) is related to its specification
(`serveStream`) for an *arbitrary* per-frame request processor `step : S → RawFrame → S × Option R × Bool`
and clean-close hook `close : S → S` (what the processor does is C03–C07/C06's concern).

All statements are for every stream, every list of blocks (of any sizes, empty blocks included), every
frame list, every processor and every state: no bound anywhere.
-/
namespace Cpppo.Framing
open Cpppo Cpppo.Bytes

/-! ## 1. Segmentation is invisible -/

/-- from any point between frames or inside one: blocks received later complete what was begun earlier -/
theorem machine_chunks_from (acc : Bytes) (h : split1 acc = none) (cs : List Bytes) :
    mrunAll acc cs = frames (acc ++ cs.flatten) := by
  induction cs generalizing acc with
  | nil => rw [mrunAll, List.flatten_nil, List.append_nil, frames_of_none acc h]
  | cons c cs ih =>
    simp only [mrunAll, mrun_eq_frames acc c h, ih _ (frames_residue _), List.flatten_cons, ← List.append_assoc,
      frames_append (acc ++ c)]

/-- **The machine, fed any sequence of blocks, delivers exactly the frames of the whole stream (and is left
holding exactly the unfinished remainder).** -/
theorem machine_chunks (cs : List Bytes) : mrunAll [] cs = frames cs.flatten :=
  machine_chunks_from [] split1_nil cs

/-- **Two ways of cutting the same stream give the same messages.** -/
theorem machine_partition_irrelevant (cs ds : List Bytes) (h : cs.flatten = ds.flatten) :
    mrunAll [] cs = mrunAll [] ds := by
  rw [machine_chunks, machine_chunks, h]

/-- byte-at-a-time delivery is one such partition -/
theorem machine_bytewise (bs : Bytes) : mrunAll [] (bs.map fun b => [b]) = frames bs := by
  rw [machine_chunks, ← List.flatMap_def, List.flatMap_singleton']

/-- **The buffering framer: folding `feed` over any blocks = feeding the concatenation.** -/
theorem feed_chunks (fr : Framer) (h : split1 fr.pending = none) (cs : List Bytes) :
    feedAll fr cs = feed fr cs.flatten := by
  induction cs generalizing fr with
  | nil => simp [feedAll, feed, frames_of_none _ h]
  | cons c cs ih =>
    simp only [feedAll, feed, ih ⟨_⟩ (frames_residue (fr.pending ++ c)), List.flatten_cons, ← List.append_assoc,
      frames_append (fr.pending ++ c)]

/-- the framer's invariant (no complete frame is ever left pending) is kept by `feed` -/
theorem feed_invariant (fr : Framer) (c : Bytes) : split1 (feed fr c).1.pending = none :=
  frames_residue _

/-- both framers are the same function of the stream -/
theorem feed_eq_machine (cs : List Bytes) :
    feedAll {} cs = ({ pending := (mrunAll [] cs).2 }, (mrunAll [] cs).1) := by
  rw [feed_chunks {} split1_nil, machine_chunks]; simp [feed]

/-! ## 2. Each frame consumes exactly 24 bytes plus its declared length, and nothing of what follows -/

/-- a stream of frames is cut into exactly those frames, nothing pending -/
theorem frames_encodeAll (fs : List RawFrame) (h : ∀ f ∈ fs, f.WF) : frames (encodeAll fs) = (fs, []) := by
  simpa [frames_of_none [] split1_nil] using frames_encodeAll_append fs h []

/-- **…no matter how the stream is cut into received blocks.** -/
theorem chunks_of_frames (fs : List RawFrame) (h : ∀ f ∈ fs, f.WF) (cs : List Bytes)
    (hcs : cs.flatten = encodeAll fs) : mrunAll [] cs = (fs, []) := by
  rw [machine_chunks, hcs, frames_encodeAll fs h]

/-- every delivered frame has its declared number of payload bytes and accounts for exactly
`24 + length` bytes of the stream: sizes of the frames + the remainder = the stream -/
theorem frames_account (bs : Bytes) :
    ((frames bs).1.map RawFrame.size).sum + (frames bs).2.length = bs.length := by
  induction bs using frames_induct with
  | hnone bs h => rw [frames_of_none bs h]; simp
  | hsome m rest h ih =>
    rw [frames_complete_append m rest h, List.map_cons, List.sum_cons, Nat.add_assoc, ih, List.length_append,
      (complete_iff m).mp h]
    rfl

/-- the encoded size of a frame is 24 + its declared length -/
theorem frame_size (f : RawFrame) (h : f.WF) : (encodeRaw f).length = 24 + f.length :=
  encodeRaw_length f h

/-! ## 3. An incomplete frame is no frame -/

/-- **A strict prefix of one frame yields nothing.** -/
theorem frames_strict_prefix (f : RawFrame) (h : f.WF) (p : Bytes) (hp : p <+: encodeRaw f)
    (hne : p ≠ encodeRaw f) : frames p = ([], p) :=
  frames_of_none p <| split1_prefix_complete _ p (complete_encode f h) hp <|
    Nat.lt_of_le_of_ne hp.length_le fun he => hne (hp.eq_of_length he)

/-- complete frames followed by a strict prefix of a further frame: exactly the complete ones -/
theorem frames_truncated (fs : List RawFrame) (h : ∀ f ∈ fs, f.WF) (f : RawFrame) (hf : f.WF) (p : Bytes)
    (hp : p <+: encodeRaw f) (hne : p ≠ encodeRaw f) : frames (encodeAll fs ++ p) = (fs, p) := by
  rw [frames_encodeAll_append fs h, frames_strict_prefix f hf p hp hne]; simp

/-- **A frame is delivered if and only if its final byte has been delivered**: of a stream of frames cut
after `k` bytes, exactly the frames whose end offset is `≤ k` come out. -/
theorem delivered_iff_final_byte (fs : List RawFrame) (h : ∀ f ∈ fs, f.WF) (k : Nat) :
    (frames ((encodeAll fs).take k)).1 = fs.take (nComplete fs k) ∧
    ∀ i, i < nComplete fs k ↔ i < fs.length ∧ endOffset fs i ≤ k :=
  ⟨by rw [frames_take fs h k], nComplete_iff fs k⟩

/-! ## 4. The connection -/

section
variable {S R : Type} (step : S → RawFrame → S × Option R × Bool) (close : S → S)

/-- **The outcome of a connection (final state, replies sent, how it ended) does not depend on how the
stream was cut into received blocks.** -/
theorem serve_chunks (s : S) (cs : List Bytes) :
    serveChunks step close s cs = serveStream step close s cs.flatten := by
  obtain ⟨h1, h2, h3, h4⟩ := foldl_recv step (Conn.init s) rfl cs
  rw [serveStream_eq, ← machine_chunks]
  show finish close (_, _, _) _ = _
  rw [h1, h2, h3]
  exact finish_congr close _ _ _ h4

/-- **Every time the connection comes back for more input, exactly the frames whose final byte it has been
given have been acted upon** (state and replies are those of the complete frames of the bytes received so
far; a frame is not held back waiting for bytes that follow it). -/
theorem serve_progress (s : S) (cs : List Bytes) (i : Nat) (h : i < cs.length) :
    ∃ c, (Conn.trace step (Conn.init s) cs)[i]? = some c ∧
      c.st = (serveFrames step s (frames (cs.take (i + 1)).flatten).1).1 ∧
      c.replies = (serveFrames step s (frames (cs.take (i + 1)).flatten).1).2.1 := by
  refine ⟨_, trace_getElem step _ cs i h, ?_⟩
  have := foldl_recv step (Conn.init s) rfl (cs.take (i + 1))
  simp only [Conn.init, List.nil_append, machine_chunks] at this
  exact ⟨this.1, this.2.1⟩

theorem serve_partition_irrelevant (s : S) (cs ds : List Bytes) (h : cs.flatten = ds.flatten) :
    serveChunks step close s cs = serveChunks step close s ds := by
  rw [serve_chunks, serve_chunks, h]

/-- a stream of complete frames: each is handed to the processor, in order, until the processor ends the
session; a clean end calls the close hook -/
theorem serve_complete (s : S) (fs : List RawFrame) (h : ∀ f ∈ fs, f.WF) (cs : List Bytes)
    (hcs : cs.flatten = encodeAll fs) :
    serveChunks step close s cs =
      let t := serveFrames step s fs
      if t.2.2 then (close t.1, t.2.1, Ending.clean) else (t.1, t.2.1, Ending.stopped) := by
  rw [serve_chunks, hcs, serveStream_eq, frames_encodeAll fs h]; rfl

/-- **A stream that ends inside a frame = the complete frames before it: the unfinished frame is never
handed to the processor (no state change, no reply), and neither is the close hook.** -/
theorem serve_truncated (s : S) (fs : List RawFrame) (h : ∀ f ∈ fs, f.WF) (f : RawFrame) (hf : f.WF)
    (p : Bytes) (hp : p <+: encodeRaw f) (hne : p ≠ encodeRaw f) (hp0 : p ≠ []) (cs : List Bytes)
    (hcs : cs.flatten = encodeAll fs ++ p) :
    serveChunks step close s cs =
      let t := serveFrames step s fs
      (t.1, t.2.1, if t.2.2 then Ending.aborted p.length else Ending.stopped) := by
  rw [serve_chunks, hcs, serveStream_eq, frames_truncated fs h f hf p hp hne]
  exact finish_of_ne_nil close _ p hp0

/-- state and replies after a truncated stream are those of the complete frames alone -/
theorem truncated_no_effect (s : S) (fs : List RawFrame) (h : ∀ f ∈ fs, f.WF) (f : RawFrame) (hf : f.WF)
    (p : Bytes) (hp : p <+: encodeRaw f) (hne : p ≠ encodeRaw f) (hp0 : p ≠ []) (cs : List Bytes)
    (hcs : cs.flatten = encodeAll fs ++ p) :
    (serveChunks step close s cs).1 = (serveFrames step s fs).1 ∧
    (serveChunks step close s cs).2.1 = (serveFrames step s fs).2.1 := by
  rw [serve_truncated step close s fs h f hf p hp hne hp0 cs hcs]; simp

/-- **Acted upon iff the final byte was delivered**: a request stream cut after `k` bytes (in whatever
blocks): the processor sees exactly the frames that end within the first `k` bytes. -/
theorem serve_cut (s : S) (fs : List RawFrame) (h : ∀ f ∈ fs, f.WF) (k : Nat) (cs : List Bytes)
    (hcs : cs.flatten = (encodeAll fs).take k) :
    serveChunks step close s cs =
      finish close (serveFrames step s (fs.take (nComplete fs k)))
        ((encodeAll (fs.drop (nComplete fs k))).take (k - sizeAll (fs.take (nComplete fs k)))) := by
  rw [serve_chunks, hcs, serveStream_eq, frames_take fs h k]

/-- **Another session served afterwards starts from the state the complete frames left** (a connection
that died inside a frame has not disturbed it). -/
theorem second_session_unaffected (s : S) (fs : List RawFrame) (h : ∀ f ∈ fs, f.WF) (f : RawFrame)
    (hf : f.WF) (p : Bytes) (hp : p <+: encodeRaw f) (hne : p ≠ encodeRaw f) (hp0 : p ≠ [])
    (cs : List Bytes) (hcs : cs.flatten = encodeAll fs ++ p) (ds : List Bytes) :
    serveChunks step close (serveChunks step close s cs).1 ds =
      serveChunks step close (serveFrames step s fs).1 ds := by
  rw [(truncated_no_effect step close s fs h f hf p hp hne hp0 cs hcs).1]

end

/-! ## 5. Non-vacuity: the hypotheses are satisfiable, the definitions compute what is claimed -/

/-- a Register Session request and a 10-byte SendRRData-like frame -/
def exReg : RawFrame :=
  { command := 0x65, length := 4, session := 0, status := 0, context := [0, 0, 0, 0, 0, 0, 0, 0],
    options := 0, payload := [1, 0, 0, 0] }
def exData : RawFrame :=
  { command := 0x6f, length := 10, session := 0x11020101, status := 0, context := [97, 98, 99, 100, 101, 102, 103, 104],
    options := 0, payload := [1, 2, 3, 4, 5, 6, 7, 8, 9, 10] }
def exNop : RawFrame :=
  { command := 0, length := 0, session := 0, status := 0, context := [9, 9, 9, 9, 9, 9, 9, 9], options := 7,
    payload := [] }

example : exReg.WF ∧ exData.WF ∧ exNop.WF := by decide +kernel
example : (encodeRaw exReg).length = 28 := by decide +kernel

/-- the machine on a stream cut inside the length field, inside the header, and with two frames in one block -/
example : mrunAll [] [(encodeRaw exReg).take 3, (encodeRaw exReg).drop 3 ++ encodeRaw exData ++ (encodeRaw exNop).take 11,
                      (encodeRaw exNop).drop 11] = ([exReg, exData, exNop], []) := by decide +kernel

/-- a stream that ends one byte short -/
example : mrunAll [] [encodeRaw exReg ++ (encodeRaw exData).take 33] = ([exReg], (encodeRaw exData).take 33) := by
  decide +kernel

example : (encodeRaw exData).take 33 <+: encodeRaw exData ∧ (encodeRaw exData).take 33 ≠ encodeRaw exData ∧
    (encodeRaw exData).take 33 ≠ [] := by
  refine ⟨List.take_prefix _ _, by decide +kernel, by decide +kernel⟩

/-- a counting processor: state = number of frames seen; replies with the index; stops on command 0x66 -/
def exStep (n : Nat) (f : RawFrame) : Nat × Option Nat × Bool :=
  if f.command = 0x66 then (n + 1, none, false) else (n + 1, some n, true)

example : serveChunks exStep (· + 100) 0 [encodeRaw exReg ++ (encodeRaw exData).take 33] =
    (1, [0], Ending.aborted 33) := by decide +kernel
example : serveChunks exStep (· + 100) 0 [encodeRaw exReg, encodeRaw exData] =
    (102, [0, 1], Ending.clean) := by decide +kernel
example : nComplete [exReg, exData, exNop] 61 = 1 ∧ nComplete [exReg, exData, exNop] 62 = 2 ∧
    endOffset [exReg, exData, exNop] 1 = 62 := by decide +kernel

/-- the well-formedness hypothesis is needed: a frame whose declared length differs from its payload is not
re-framed as itself (the framer believes the declared length) -/
theorem wf_needed :
    let f : RawFrame := { exReg with length := 2 }
    ¬ f.WF ∧ (frames (encodeRaw f)).1 ≠ [f] := by decide +kernel

/-! ## 6. Tie to the extracted state graphs of the live `enip_header` / `enip_machine` -/

/-- the chain of header states in the source is the layout the model decodes -/
theorem tie_header_chain : Generated.enipHeaderChain = headerLayout := by decide +kernel

/-- … every struct field as wide as its struct format says, integers little-endian, the context raw octets -/
theorem tie_header_formats :
    Generated.enipHeaderFormats = ["<H", "<H", "<I", "<I", "octets", "<I"] ∧
    Generated.enipHeaderCalcsizes = headerLayout.map (·.2) := by decide +kernel

/-- the layout is 2+2+4+4+8+4 = 24 bytes with the length field at offset 2, width 2, and the other
fields where `parseFrame` reads them -/
theorem tie_header_offsets :
    layoutSize headerLayout = headerSize ∧ headerSize = 24 ∧
    offsetOf "command" headerLayout = some 0 ∧
    offsetOf "length" headerLayout = some lengthOffset ∧ (headerLayout.lookup "length") = some lengthWidth ∧
    offsetOf "session_handle" headerLayout = some 4 ∧ offsetOf "status" headerLayout = some 8 ∧
    offsetOf "sender_context" headerLayout = some 12 ∧ offsetOf "options" headerLayout = some 20 := by
  decide +kernel

/-- all-or-nothing header: the initial state is a terminal no-op, every edge of the chain needs a symbol
(no no-input edge that could be skipped when nothing is available), no branching, and only the last
field is terminal -/
theorem tie_header_all_or_nothing :
    Generated.enipHeaderEmptyTerminal = true ∧ Generated.enipHeaderBranching = false ∧
    Generated.enipHeaderEdgeKinds = List.replicate 6 "any" ∧
    Generated.enipHeaderTerminals = [false, false, false, false, false, true] ∧
    Generated.enipHeaderOwnContext = "" ∧ Generated.enipMachineInitialIsHeader = true := by decide +kernel

/-- the payload: a single no-input edge from the header to a terminal `octets` repeated `.length` times,
in the same context as the header (so `.length` is the header's length field), with nothing after it -/
theorem tie_payload :
    Generated.enipPayloadEdges = 1 ∧ Generated.enipPayloadEdgeKind = "non" ∧
    Generated.enipPayloadRepeat = ".length" ∧ Generated.enipPayloadIsOctets = true ∧
    Generated.enipPayloadTerminal = true ∧ Generated.enipPayloadOutEdges = 0 ∧
    Generated.enipPayloadContext = "" := by decide +kernel

end Cpppo.Framing
