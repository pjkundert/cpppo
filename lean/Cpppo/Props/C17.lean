import Cpppo.Proofs.Times.Render
import Cpppo.Proofs.Times.Zones
import Cpppo.Proofs.Times.Durations
import Cpppo.Generated.Tables

/-!
# C17 — Timestamps and durations survive render/parse; ordering matches the rendering

Theorems about the model `Cpppo.Times` (the code after the two `fix:` patches, see the model file).
Instants are integer microseconds `μ` plus the sign `bias` of the binary64 representation error;
every theorem quantifies over all `μ`, all `bias`, all precisions `p ≤ 6` and all zone tables.
-/
namespace Cpppo.Times

/-- the instant that a rendering with `p` sub-second digits denotes: `ms=False` truncates to the
second, `p ≥ 1` rounds to `10^-p` s (carrying into the next second / day / year when it must) -/
def renderedInstant (p : Nat) (μ bias : Int) : Int :=
  if p = 0 then μ / 1000000 * 1000000 else roundTo p μ bias

/-- the `suffix` of `renderWith`, as a function of what it depends on -/
def suffixOf (zone : Option Zone) (detail : Detail) (per : Period) : List Char :=
  match detail, zone with
  | .dflt, none => []
  | .dflt, some _ => ' ' :: per.abbr
  | .full, _ => ' ' :: (zone.getD utcZone).name
  | .numeric, _ => numericOffset per.off

theorem render_eq (p : Nat) (hp : p ≤ 6) (μ bias : Int) (zone : Option Zone) (detail : Detail)
    (text : List Char) (h : render p μ bias zone detail = some text) :
    let v := renderInstant p μ bias
    let us := v / 1000000
    let per := periodAt (zone.getD utcZone) us
    let c := civilOfSecs (us + per.off)
    let frac := (v % 1000000).toNat / pow10 (6 - p)
    InRange us ∧ c.valid = true ∧ frac < pow10 p ∧
      text = formatCivil c p frac ++ suffixOf zone detail per := by
  unfold render at h
  revert h
  fun_cases renderWith true p μ bias zone detail
  · -- a year out of 1..9999, in UTC or in the zone: no rendering
    intro h; cases h
  · -- all four year bounds hold (`hr`); the `let`s after it are `sub`, `frac`, `suffix`
    rename_i hr _ _ _
    intro h
    simp only [Bool.or_eq_true, decide_eq_true_eq, not_or, Int.not_lt, gt_iff_lt] at hr
    obtain ⟨⟨⟨u1, u9999⟩, c1⟩, c9999⟩ := hr
    refine ⟨⟨u1, u9999⟩, civilOfSecs_valid _ c1 c9999, frac_lt p hp _ (by omega), ?_⟩
    rw [← Option.some.inj h]
    unfold suffixOf
    cases detail <;> cases zone <;> rfl

/-- the end of every round trip: `localize` has found the second of the rendered instant again -/
theorem instantOf_rendered (p : Nat) (hp : p ≤ 6) (μ bias : Int) (z : Zone) (flag : Option Bool) (w : Int)
    (hr : InRange (renderInstant p μ bias / 1000000))
    (hloc : localize z flag w = .ok (renderInstant p μ bias / 1000000)) :
    instantOf z flag (civilOfSecs w) (microOf p ((renderInstant p μ bias % 1000000).toNat / pow10 (6 - p)))
      = .ok (renderedInstant p μ bias) := by
  unfold instantOf
  rw [secsOfCivil_civilOfSecs, hloc]
  simp only [(inRange_iff _).2 hr, Bool.false_eq_true, if_false]
  -- seconds and fraction digits recombine to the rendered instant
  refine congrArg Except.ok ?_
  unfold renderInstant renderedInstant
  by_cases h0 : p = 0
  · simp only [h0, if_true, microOf]; omega
  · simp only [h0, if_false]
    rw [micro_of_rounded p μ bias (by omega) hp]
    omega

theorem utc_roundtrip (p : Nat) (hp : p ≤ 6) (μ bias : Int) (hr : InRange (renderInstant p μ bias / 1000000)) :
    instantOf utcZone none (civilOfSecs (renderInstant p μ bias / 1000000 +
        (periodAt utcZone (renderInstant p μ bias / 1000000)).off))
      (microOf p ((renderInstant p μ bias % 1000000).toNat / pow10 (6 - p))) = .ok (renderedInstant p μ bias) := by
  apply instantOf_rendered p hp μ bias utcZone none _ hr
  rw [show ∀ u, u + (periodAt utcZone u).off = u from Int.add_zero]
  exact localize_utc none _ hr

/-- **Render/parse round trip in UTC**, for every instant and every precision 0..6: the plain UTC
rendering parses back to the rendered instant (truncated to the second for `p = 0`, rounded to
`10^-p` s otherwise — including the carry into the next second, day, month and year). -/
theorem render_parse_utc (p : Nat) (hp : p ≤ 6) (μ bias : Int) (db : TzDb) (text : List Char)
    (h : render p μ bias none .dflt = some text) :
    parse db text = .ok (renderedInstant p μ bias) := by
  obtain ⟨hr, hv, hf, ht⟩ := render_eq p hp μ bias none .dflt text h
  simp only [suffixOf, List.append_nil] at ht
  rw [ht, parse_format_plain db _ p _ hv hp hf]
  exact utc_roundtrip p hp μ bias hr

/-- the same with `tzdetail=True` (the rendering ends in ` UTC`), when the data base resolves `UTC`
to the UTC zone (as `pytz.timezone('UTC')` does) -/
theorem render_parse_utc_named (p : Nat) (hp : p ≤ 6) (μ bias : Int) (db : TzDb)
    (hdb : db.info utcZone.name = .ok (utcZone, none)) (text : List Char)
    (h : render p μ bias none .full = some text) :
    parse db text = .ok (renderedInstant p μ bias) := by
  obtain ⟨hr, hv, hf, ht⟩ := render_eq p hp μ bias none .full text h
  have hword : ZoneWord utcZone.name := ⟨by decide, 'U', _, rfl, by decide⟩
  simp only [suffixOf, Option.getD_none] at hv ht
  rw [ht, parse_format_zone db _ p _ hv hp hf utcZone.name hword utcZone none hdb]
  exact utc_roundtrip p hp μ bias hr

/-- **`localize` accepts exactly the wall-clock times with one preimage** (zone given without
daylight-saving designation, well-formed table, candidate instant within years 1..9999):
it answers `nonexistent` iff no UTC second has that local time, `ambiguous` iff at least two have,
and otherwise returns the unique one. -/
theorem localize_reject_iff (z : Zone) (hwf : z.wf = true) (w : Int)
    (hr : InRange (w - (wallPeriod false z w).off)) :
    (localize z none w = .error .nonexistent ↔ ∀ u, ¬ IsPre z w u) ∧
    (localize z none w = .error .ambiguous ↔ ∃ u1 u2, u1 ≠ u2 ∧ IsPre z w u1 ∧ IsPre z w u2) ∧
    (∀ u, localize z none w = .ok u ↔ (IsPre z w u ∧ ∀ u', IsPre z w u' → u' = u)) := by
  rcases localized z hwf w hr with ⟨u0, hpre, huniq, hloc⟩ | ⟨hnone, hloc⟩ | ⟨hoff, hper0, hper1, hall, hloc, -⟩
  · have h2 : ¬ ∃ u1 u2, u1 ≠ u2 ∧ IsPre z w u1 ∧ IsPre z w u2 := fun ⟨u1, u2, hne, h1, h2⟩ =>
      hne ((huniq u1 h1).trans (huniq u2 h2).symm)
    simp only [hloc, reduceCtorEq, false_iff, h2, true_and, Except.ok.injEq]
    exact ⟨fun h => h _ hpre, fun u => ⟨fun h => h ▸ ⟨hpre, huniq⟩, fun h => (huniq u h.1).symm⟩⟩
  · simp [hloc, hnone]
  · have hpre0 := isPre_of_periodAt hper0
    have hpre1 := isPre_of_periodAt hper1
    simp only [hloc, Except.error.injEq, reduceCtorEq, false_iff, true_iff]
    exact ⟨fun h => h _ hpre0, ⟨_, _, by omega, hpre0, hpre1⟩, fun u h => by
      have := h.2 _ hpre0; have := h.2 _ hpre1; omega⟩

/-- **Zone round trip** (rendering with the zone key, `tzdetail=True`): for every instant, every
precision and every well-formed zone table whose key the parser resolves to that table, parsing
the rendering either returns the rendered instant (and its wall-clock time has that instant as its
only preimage), or is refused as ambiguous (and the wall-clock time has two different preimages),
or — only at the edge of year 1 — is refused because the other candidate instant is outside
years 1..9999.  In particular it never returns a different instant, and is never refused as
nonexistent. -/
theorem zone_roundtrip (p : Nat) (hp : p ≤ 6) (μ bias : Int) (z : Zone) (hwf : z.wf = true)
    (hname : ZoneWord z.name) (db : TzDb) (hdb : db.info z.name = .ok (z, none)) (text : List Char)
    (h : render p μ bias (some z) .full = some text) :
    let us := renderInstant p μ bias / 1000000
    let w := us + (periodAt z us).off
    (parse db text = .ok (renderedInstant p μ bias) ∧ ∀ u, IsPre z w u → u = us) ∨
    (parse db text = .error .ambiguous ∧ ∃ u1 u2, u1 ≠ u2 ∧ IsPre z w u1 ∧ IsPre z w u2) ∨
    (parse db text = .error .value ∧ ¬ InRange (w - (wallPeriod false z w).off)) := by
  obtain ⟨hr, hv, hf, ht⟩ := render_eq p hp μ bias (some z) .full text h
  simp only [Option.getD_some, suffixOf] at hr hv hf ht
  intro us w
  have hus : IsPre z w us := rfl
  rw [ht, parse_format_zone db _ p _ hv hp hf z.name hname z none hdb]
  by_cases hrange : InRange (w - (wallPeriod false z w).off)
  · rcases localized z hwf w hrange with ⟨u0, -, huniq, hloc⟩ | ⟨hnone, -⟩ | ⟨hoff, hper0, hper1, -, hloc, -⟩
    · have hu0 := huniq us hus
      subst hu0
      exact .inl ⟨instantOf_rendered p hp μ bias z none w hr (hloc none), huniq⟩
    · exact absurd hus (hnone us)
    · refine .inr (.inl ⟨?_, _, _, by omega, isPre_of_periodAt hper0, isPre_of_periodAt hper1⟩)
      unfold instantOf
      rw [secsOfCivil_civilOfSecs, hloc]
  · refine .inr (.inr ⟨?_, hrange⟩)
    unfold instantOf
    rw [secsOfCivil_civilOfSecs, localize_out_of_range z none w hrange]

/-- the zone-key rendering **never parses to a different instant** -/
theorem zone_never_different (p : Nat) (hp : p ≤ 6) (μ bias : Int) (z : Zone) (hwf : z.wf = true)
    (hname : ZoneWord z.name) (db : TzDb) (hdb : db.info z.name = .ok (z, none)) (text : List Char)
    (h : render p μ bias (some z) .full = some text) (v : Int) (hparse : parse db text = .ok v) :
    v = renderedInstant p μ bias := by
  -- each alternative says what `parse db text` is, and only the first is an `.ok`
  rcases zone_roundtrip p hp μ bias z hwf hname db hdb text h with ⟨h1, -⟩ | ⟨h1, -⟩ | ⟨h1, -⟩ <;>
    cases h1.symm.trans hparse
  rfl

/-- **Round trip with a daylight-saving designation** (default rendering: the zone's abbreviation,
which `timestamp._tzabbrev` maps back to the zone and the daylight-saving flag of the period): the
rendering parses back to the rendered instant *also inside the repeated hour*, provided the two
periods that overlap there differ in their daylight-saving flag (a true DST change). -/
theorem designated_roundtrip (p : Nat) (hp : p ≤ 6) (μ bias : Int) (z : Zone) (hwf : z.wf = true)
    (db : TzDb) (text : List Char) (h : render p μ bias (some z) .dflt = some text) :
    let us := renderInstant p μ bias / 1000000
    let per := periodAt z us
    let w := us + per.off
    ZoneWord per.abbr → db.info per.abbr = .ok (z, some per.dst) →
    ((wallPeriod false z w).off ≠ (wallPeriod true z w).off →
      (wallPeriod false z w).dst ≠ (wallPeriod true z w).dst) →
    InRange (w - (wallPeriod false z w).off) →
    parse db text = .ok (renderedInstant p μ bias) := by
  obtain ⟨hr, hv, hf, ht⟩ := render_eq p hp μ bias (some z) .dflt text h
  simp only [Option.getD_some, suffixOf] at hr hv hf ht
  intro us per w hword hdb hdst hrange
  have hus : IsPre z w us := rfl
  rw [ht, parse_format_zone db _ p _ hv hp hf per.abbr hword z (some per.dst) hdb]
  apply instantOf_rendered p hp μ bias z _ w hr
  rcases localized z hwf w hrange with ⟨u0, -, huniq, hloc⟩ | ⟨hnone, -⟩ | ⟨hoff, hper0, hper1, hall, -, hflag⟩
  · rw [hloc, ← huniq us hus]
  · exact absurd hus (hnone us)
  · have hne := hdst (by omega)
    rw [hflag]
    -- the period of `us` is the one of the two whose flag the abbreviation carries
    rcases hall us hus with hu | hu
    · rw [show per = wallPeriod false z w by rw [← hper0, ← hu]]; simp [hne]; exact hu.symm
    · rw [show per = wallPeriod true z w by rw [← hper1, ← hu]]; simp [hne]; exact hu.symm

/-- the comparison tolerance is one unit of the default rendering precision
(`_epsilon = 10**-_precision`); discharged for the extracted constants by `generated_cmp_wf` -/
def CmpCfg.WF (cfg : CmpCfg) : Prop := 1 ≤ cfg.prec ∧ cfg.prec ≤ 6 ∧ cfg.eps = (pow10 (6 - cfg.prec) : Nat)

instance (cfg : CmpCfg) : Decidable cfg.WF := by unfold CmpCfg.WF; infer_instance

/-- **`<` never contradicts the order of the default (millisecond) renderings**: if `a < b` as
timestamps then the instant rendered for `a` is strictly before the one rendered for `b`
(whatever the float representation errors), and likewise for `>`. -/
theorem cmp_consistent (cfg : CmpCfg) (h : cfg.WF) (a b ba bb : Int) :
    (tsLt cfg a b = true → roundTo cfg.prec a ba < roundTo cfg.prec b bb) ∧
    (tsGt cfg a b = true → roundTo cfg.prec a ba > roundTo cfg.prec b bb) := by
  obtain ⟨h1, h6, he⟩ := h
  obtain ⟨_, _, a1, a2⟩ := roundTo_spec cfg.prec a ba
  obtain ⟨_, _, b1, b2⟩ := roundTo_spec cfg.prec b bb
  simp only [tsLt, tsGt, decide_eq_true_eq]
  omega

/-- the six operators are consistent with each other (`<=` is not `>`, `==` is neither `<` nor `>`) -/
theorem cmp_operators (cfg : CmpCfg) (a b : Int) :
    tsLe cfg a b = !tsGt cfg a b ∧ tsGe cfg a b = !tsLt cfg a b ∧
    tsEq cfg a b = (!tsLt cfg a b && !tsGt cfg a b) ∧ tsNe cfg a b = !tsEq cfg a b ∧
    (0 ≤ cfg.eps → ¬ (tsLt cfg a b = true ∧ tsGt cfg a b = true)) := by
  refine ⟨rfl, rfl, by simp [tsEq, tsNe], by simp [tsEq], ?_⟩
  intro he
  simp only [tsLt, tsGt, decide_eq_true_eq]
  omega

/-- **Equal renderings compare equal**: two instants whose default-precision UTC renderings are
the same text are `==`, `<=`, `>=` and neither `<` nor `>` nor `!=`. -/
theorem equal_renderings_compare_equal (cfg : CmpCfg) (h : cfg.WF) (a b ba bb : Int)
    (text : List Char) (ha : render cfg.prec a ba none .dflt = some text)
    (hb : render cfg.prec b bb none .dflt = some text) :
    tsEq cfg a b = true ∧ tsLt cfg a b = false ∧ tsGt cfg a b = false ∧ tsNe cfg a b = false ∧
    tsLe cfg a b = true ∧ tsGe cfg a b = true := by
  obtain ⟨h1, h6, he⟩ := h
  -- equal texts parse (with any data base, here the empty one) to equal rendered instants
  have pa := render_parse_utc cfg.prec h6 a ba ⟨[], []⟩ text ha
  have pb := render_parse_utc cfg.prec h6 b bb ⟨[], []⟩ text hb
  rw [pa] at pb
  have heq : roundTo cfg.prec a ba = roundTo cfg.prec b bb := by
    have := Except.ok.inj pb
    simpa [renderedInstant, show cfg.prec ≠ 0 by omega] using this
  obtain ⟨_, _, a1, a2⟩ := roundTo_spec cfg.prec a ba
  obtain ⟨_, _, b1, b2⟩ := roundTo_spec cfg.prec b bb
  have hlt : tsLt cfg a b = false := by simp only [tsLt, decide_eq_false_iff_not]; omega
  have hgt : tsGt cfg a b = false := by simp only [tsGt, decide_eq_false_iff_not]; omega
  simp [tsEq, tsNe, tsLe, tsGe, hlt, hgt]

/-- consequently `<` implies *different* renderings -/
theorem lt_renderings_differ (cfg : CmpCfg) (h : cfg.WF) (a b ba bb : Int) (ta tb : List Char)
    (ha : render cfg.prec a ba none .dflt = some ta) (hb : render cfg.prec b bb none .dflt = some tb)
    (hlt : tsLt cfg a b = true) : ta ≠ tb := by
  rintro rfl
  simp [(equal_renderings_compare_equal cfg h a b ba bb ta ha hb).2.1] at hlt

/-- **The text order of two UTC renderings is the order of the rendered instants** (years
1000..9999, where `%Y` has four digits; `<` on `List Char` is the lexicographic code-point order
that Python uses for `str`). -/
theorem render_order (p : Nat) (hp1 : 1 ≤ p) (hp : p ≤ 6) (a b ba bb : Int) (ta tb : List Char)
    (ha : render p a ba none .dflt = some ta) (hb : render p b bb none .dflt = some tb)
    (hya : 1000 ≤ (civilOfSecs (roundTo p a ba / 1000000)).y)
    (hyb : 1000 ≤ (civilOfSecs (roundTo p b bb / 1000000)).y)
    (hlt : roundTo p a ba < roundTo p b bb) : ta < tb := by
  obtain ⟨_, hva, _, hta⟩ := render_eq p hp a ba none .dflt ta ha
  obtain ⟨_, hvb, hfb, htb⟩ := render_eq p hp b bb none .dflt tb hb
  have hper : ∀ u, periodAt utcZone u = utcPeriod := fun _ => rfl
  have hri : ∀ x bx, renderInstant p x bx = roundTo p x bx := by
    intro x bx; unfold renderInstant; rw [if_neg (by omega)]
  simp only [Option.getD_none, hper, suffixOf, List.append_nil, utcPeriod, Int.add_zero, hri] at hva hta hvb hfb htb
  rw [hta, htb]
  apply formatCivil_lt _ _ p _ _ hp1 hva hvb hya hyb hfb
  apply civilOfSecs_key
  by_cases hs : roundTo p a ba / 1000000 = roundTo p b bb / 1000000
  · right; exact ⟨hs, roundTo_frac_lt p hp a b ba bb hlt hs⟩
  · left; omega

/-- **`<` on timestamps implies `<` on their default renderings as strings** (and `>` implies
`>`), for instants rendered with four-digit years: comparison never contradicts the order of the
millisecond UTC renderings. -/
theorem lt_string_order (cfg : CmpCfg) (h : cfg.WF) (a b ba bb : Int) (ta tb : List Char)
    (ha : render cfg.prec a ba none .dflt = some ta) (hb : render cfg.prec b bb none .dflt = some tb)
    (hya : 1000 ≤ (civilOfSecs (roundTo cfg.prec a ba / 1000000)).y)
    (hyb : 1000 ≤ (civilOfSecs (roundTo cfg.prec b bb / 1000000)).y) :
    (tsLt cfg a b = true → ta < tb) ∧ (tsGt cfg a b = true → tb < ta) := by
  have hc := cmp_consistent cfg h a b ba bb
  exact ⟨fun hlt => render_order cfg.prec h.1 h.2.1 a b ba bb ta tb ha hb hya hyb (hc.1 hlt),
    fun hgt => render_order cfg.prec h.1 h.2.1 b a bb ba tb ta hb ha hyb hya (hc.2 hgt)⟩

/-! ### one timestamp object through its mutating API (`+=`, `-=`, `+`, `-`, the `.utc`/`.local` setters) -/

/-- the invariant of the lazily cached rendering `_str`: when present it is the rendering of the
value the object holds *now* -/
def TsObj.CacheOk (prec : Nat) (o : TsObj) : Prop :=
  ∀ t, o.cache = some t → render prec o.μ o.bias none .dflt = some t

theorem fresh_cacheOk (prec : Nat) (μ bias : Int) : ({ μ := μ, bias := bias } : TsObj).CacheOk prec := by
  intro t h; simp at h

/-- with the invariant, `str(ts)` is the rendering of the current value, and keeps the invariant -/
theorem str_is_render (prec : Nat) (o : TsObj) (h : o.CacheOk prec) :
    (o.str prec).1 = render prec o.μ o.bias none .dflt ∧ (o.str prec).2.CacheOk prec ∧
    (o.str prec).2.μ = o.μ ∧ (o.str prec).2.bias = o.bias := by
  unfold TsObj.str
  cases hc : o.cache with
  | some t => exact ⟨(h t hc).symm, h, rfl, rfl⟩
  | none =>
    cases hr : render prec o.μ o.bias none .dflt with
    | none => exact ⟨rfl, h, rfl, rfl⟩
    | some t =>
      exact ⟨rfl, fun t' ht' => Option.some.inj ht' ▸ hr, rfl, rfl⟩

/-- **every operation of the mutating API keeps the cached rendering in step with the value** -/
theorem step_cacheOk (prec : Nat) (db : TzDb) (o : TsObj) (op : ObjOp) (h : o.CacheOk prec) :
    (o.step prec db op).CacheOk prec := by
  cases op with
  | str | cmp => exact (str_is_render prec o h).2.1
  | render | localGet | copy => exact h
  | inplace nz μ b | arith nz μ b =>
    -- the value changes, and the cache goes, exactly when `nz`
    cases nz
    · exact h
    · exact fresh_cacheOk prec μ b
  | assign t =>
    simp only [TsObj.step, TsObj.assign]
    cases parse db t with
    | ok v => exact fresh_cacheOk prec v 0
    | error e => exact h

/-- ... hence after **any sequence** of operations on a freshly made timestamp -/
theorem steps_cacheOk (prec : Nat) (db : TzDb) (ops : List ObjOp) (o : TsObj) (h : o.CacheOk prec) :
    (ops.foldl (TsObj.step prec db) o).CacheOk prec := by
  induction ops generalizing o with
  | nil => exact h
  | cons op ops ih => exact ih _ (step_cacheOk prec db o op h)

/-- **Object-level round trip**: whatever was done to a timestamp object before, the text `str(ts)`
gives parses back to the instant the object holds now (rounded to the default precision). -/
theorem obj_str_roundtrip (prec : Nat) (hp : prec ≤ 6) (db db' : TzDb) (μ bias : Int) (ops : List ObjOp)
    (t : List Char) :
    let o := ops.foldl (TsObj.step prec db) { μ := μ, bias := bias }
    (o.str prec).1 = some t → parse db' t = .ok (renderedInstant prec o.μ o.bias) := by
  intro o ht
  have hok := steps_cacheOk prec db ops _ (fresh_cacheOk prec μ bias)
  rw [(str_is_render prec o hok).1] at ht
  exact render_parse_utc prec hp o.μ o.bias db' t ht

/-- **Object-level comparison**: two timestamp objects, each after any sequence of operations,
whose `str()` are equal compare `==`; if one compares `<` the other its `str()` is the smaller
string (four-digit years). -/
theorem obj_compare_consistent (cfg : CmpCfg) (h : cfg.WF) (db : TzDb) (μa ba μb bb : Int)
    (opsA opsB : List ObjOp) (ta tb : List Char) :
    let a := opsA.foldl (TsObj.step cfg.prec db) { μ := μa, bias := ba }
    let b := opsB.foldl (TsObj.step cfg.prec db) { μ := μb, bias := bb }
    (a.str cfg.prec).1 = some ta → (b.str cfg.prec).1 = some tb →
    (ta = tb → tsEq cfg a.μ b.μ = true ∧ tsLt cfg a.μ b.μ = false ∧ tsGt cfg a.μ b.μ = false) ∧
    (1000 ≤ (civilOfSecs (roundTo cfg.prec a.μ a.bias / 1000000)).y →
     1000 ≤ (civilOfSecs (roundTo cfg.prec b.μ b.bias / 1000000)).y →
     (tsLt cfg a.μ b.μ = true → ta < tb) ∧ (tsGt cfg a.μ b.μ = true → tb < ta)) := by
  intro a b hta htb
  have hoa := steps_cacheOk cfg.prec db opsA _ (fresh_cacheOk cfg.prec μa ba)
  have hob := steps_cacheOk cfg.prec db opsB _ (fresh_cacheOk cfg.prec μb bb)
  rw [(str_is_render cfg.prec a hoa).1] at hta
  rw [(str_is_render cfg.prec b hob).1] at htb
  refine ⟨fun heq => ?_, fun hya hyb => lt_string_order cfg h a.μ b.μ a.bias b.bias ta tb hta htb hya hyb⟩
  subst heq
  have := equal_renderings_compare_equal cfg h a.μ b.μ a.bias b.bias ta hta htb
  exact ⟨this.1, this.2.1, this.2.2.1⟩

/-- non-vacuity: render, advance in place by 61 s, render again -/
example : (([ObjOp.str, .inplace true 1399326202000000 0].foldl (TsObj.step 3 ⟨[], []⟩)
      ({ μ := 1399326141000000, bias := 0 } : TsObj)).str 3).1
    = some "2014-05-05 21:43:22.000".toList := by decide +kernel

/-- a sample of why the invalidation matters (a *seeded change*, not the code): an in-place add
that keeps the cache breaks the invariant on the first sequence render / `+=` / render -/
example : let keep (o : TsObj) (μ' : Int) : TsObj := { o with μ := μ' }
    let o := keep (({ μ := 1399326141000000, bias := 0 } : TsObj).str 3).2 1399326141001000;
    (o.str 3).1 = some "2014-05-05 21:42:21.000".toList ∧
    render 3 o.μ o.bias none .dflt = some "2014-05-05 21:42:21.001".toList := by
  constructor <;> decide +kernel

/-- **A duration formatted to text parses back to exactly the same duration**, for every
non-negative count of microseconds that a `timedelta` can hold (every combination of
y/w/d/h/m/s and of the fractional, `ms` and `us` sub-second forms), for any unit lengths and any
unit-word table in which the eight words that `_format` writes close the right groups. -/
theorem duration_roundtrip (cfg : DurCfg) (tbl : UnitTable) (hU : UnitsOk tbl) (d : Nat)
    (hrange : d / 86400000000 ≤ 999999999) :
    durParse cfg tbl (durFormat cfg (d : Int)) = .ok (d : Int) := by
  obtain ⟨r, hr, hsum⟩ := durItems_format cfg tbl hU d
  unfold durParse
  rw [hr]
  simp only []
  rw [hsum, if_neg (by omega)]

/-- a negative duration formats with a leading `-` (Python's floor division makes the years
negative) which the expression does not accept: it is refused, not misread -/
theorem negative_duration_rejected (cfg : DurCfg) (tbl : UnitTable) (hyr : 0 < cfg.yr) (d : Int)
    (hd : d < 0) : durParse cfg tbl (durFormat cfg d) = .error .syntax := by
  have hy : d / 1000000 / (cfg.yr : Int) < 0 := Int.ediv_neg_of_neg_of_pos (by omega) (by omega)
  obtain ⟨rest, hrest⟩ : ∃ rest, durFormat cfg d = '-' :: rest := by
    unfold durFormat
    simp only [unitText, intDigits]
    rw [if_neg (by omega), if_pos hy]
    exact ⟨_, by simp only [List.cons_append, List.append_assoc]; rfl⟩
  unfold durParse
  rw [hrest]
  simp [durItems, dropWs, isWs, spanDigits, isDigit, digitVal, isDecPoint]

/-! ### the calendar and the rounding, as properties of their own -/

/-- **Days ↔ civil date round trip for every day number**, with the civil fields in range
(month 1..12, day 1..length of that month in that year, leap years included). -/
theorem days_civil_roundtrip (n : Int) :
    daysFromCivil (civilFromDays n).1 (civilFromDays n).2.1 (civilFromDays n).2.2 = n ∧
    1 ≤ (civilFromDays n).2.1 ∧ (civilFromDays n).2.1 ≤ 12 ∧ 1 ≤ (civilFromDays n).2.2 ∧
    (civilFromDays n).2.2 ≤ daysInMonth (civilFromDays n).1 (civilFromDays n).2.1 :=
  ⟨daysFromCivil_civilFromDays n, civilFromDays_valid n⟩

/-- the rendered instant is within half a unit of the last digit of the instant, and to the
millisecond (±0.5 ms) for `p ≥ 3`; for `p = 0` it is the instant truncated to the second -/
theorem renderedInstant_close (p : Nat) (hp : p ≤ 6) (μ bias : Int) :
    (p = 0 → renderedInstant p μ bias ≤ μ ∧ μ < renderedInstant p μ bias + 1000000) ∧
    (1 ≤ p → 2 * (renderedInstant p μ bias - μ) ≤ (pow10 (6 - p) : Nat) ∧
             2 * (μ - renderedInstant p μ bias) ≤ (pow10 (6 - p) : Nat)) ∧
    (3 ≤ p → 2 * (renderedInstant p μ bias - μ) ≤ 1000 ∧ 2 * (μ - renderedInstant p μ bias) ≤ 1000) := by
  unfold renderedInstant
  obtain ⟨_, _, h1, h2⟩ := roundTo_spec p μ bias
  refine ⟨fun h0 => by simp only [h0, if_true]; omega, fun h1p => ?_, fun h3 => ?_⟩
  · rw [if_neg (by omega)]; exact ⟨h1, h2⟩
  · rw [if_neg (by omega)]
    have : ((pow10 (6 - p) : Nat) : Int) ≤ 1000 := by
      have : p = 3 ∨ p = 4 ∨ p = 5 ∨ p = 6 := by omega
      rcases this with rfl | rfl | rfl | rfl <;> decide
    omega

/-! ### non-vacuity, witnesses, and the tie to the extracted constants -/

def edmonton : Zone :=
  { name := "America/Edmonton".toList, first := ⟨-25200, false, "MST".toList⟩,
    trans := [(1394355600, ⟨-21600, true, "MDT".toList⟩), (1414915200, ⟨-25200, false, "MST".toList⟩)] }

def edmontonDb : TzDb := { zones := [edmonton], abbrevs := [] }

example : edmonton.wf = true := by decide
example : ZoneWord edmonton.name := ⟨by decide, 'A', _, rfl, by decide⟩
example : edmontonDb.info edmonton.name = .ok (edmonton, none) := by decide

-- carry into the next second / minute / hour / day / month / year (the instant of `history_test`,
-- and 1999-12-31 23:59:59.9996)
example : render 3 1399326141999836 0 none .dflt = some "2014-05-05 21:42:22.000".toList := by decide +kernel
example : render 3 946684799999600 0 none .dflt = some "2000-01-01 00:00:00.000".toList := by decide +kernel
example : parse ⟨[], []⟩ "2000-01-01 00:00:00.000".toList = .ok 946684800000000 := by decide +kernel

-- an instant in the repeated hour of 2014-11-02 is refused as ambiguous, the hour before parses
example : render 3 1414915200500000 0 (some edmonton) .full
    = some "2014-11-02 01:00:00.500 America/Edmonton".toList := by decide +kernel
example : parse edmontonDb "2014-11-02 01:00:00.500 America/Edmonton".toList = .error .ambiguous := by
  decide +kernel
example : parse edmontonDb "2014-11-02 00:59:59.999 America/Edmonton".toList = .ok 1414911599999000 := by
  decide +kernel
/-- a wall-clock time in the skipped hour of 2014-03-09 is refused as nonexistent -/
example : parse edmontonDb "2014-03-09 02:30:00 America/Edmonton".toList = .error .nonexistent := by
  decide +kernel

def edmontonAbbrevDb : TzDb :=
  { zones := [edmonton], abbrevs := [("MDT".toList, edmonton.name, some true), ("MST".toList, edmonton.name, some false)] }

-- the daylight-saving designated form: both instants 01:59:59.5 of the repeated hour parse back
-- to themselves (`MDT` ↦ is_dst, `MST` ↦ not), as `designated_roundtrip` states
example : render 3 1414915199500000 0 (some edmonton) .dflt = some "2014-11-02 01:59:59.500 MDT".toList := by
  decide +kernel
example : parse edmontonAbbrevDb "2014-11-02 01:59:59.500 MDT".toList = .ok 1414915199500000 := by decide +kernel
example : parse edmontonAbbrevDb "2014-11-02 01:59:59.500 MST".toList = .ok 1414918799500000 := by decide +kernel
example : ZoneWord "MDT".toList := ⟨by decide, 'M', _, rfl, by decide⟩
example : edmontonAbbrevDb.info "MDT".toList = .ok (edmonton, some true) := by decide

-- comparison: 1.001 ms apart is `<`, exactly 1 ms apart is `==`; the renderings agree
example : tsLt {} 1399326141000000 1399326141001001 = true ∧ tsLt {} 1399326141000000 1399326141001000 = false ∧
    tsEq {} 1399326141000000 1399326141001000 = true := by decide
example : ({} : CmpCfg).WF := by decide
example : render 3 1399326141000400 0 none .dflt = some "2014-05-05 21:42:21.000".toList ∧
    render 3 1399326141000499 1 none .dflt = some "2014-05-05 21:42:21.000".toList := by
  constructor <;> decide +kernel
example : "2014-05-05 21:42:21.000".toList < "2014-05-05 21:42:21.001".toList := by decide
/-- a tie at the third digit goes where the float's representation error points, and to the even
millisecond when the float is exact -/
example : roundTo 3 62500 0 = 62000 ∧ roundTo 3 62500 1 = 63000 ∧ roundTo 3 187500 0 = 188000 ∧
    roundTo 3 (-62500) 0 = -62000 ∧ roundTo 3 (-500) (-1) = -1000 := by decide

/-- **Witness 1 (code before the fix).**  For instants before 1970 with a sub-second part the
fraction digits were taken from the text of the negative float: -0.25 s was rendered as
`23:59:59.250`, which parses to -0.75 s — a different instant.  (`renderOld` is that code.) -/
theorem renderOld_wrong_instant :
    renderOld 3 (-250000) 0 none .dflt = some "1969-12-31 23:59:59.250".toList ∧
    parse ⟨[], []⟩ "1969-12-31 23:59:59.250".toList = .ok (-750000) ∧
    render 3 (-250000) 0 none .dflt = some "1969-12-31 23:59:59.750".toList := by
  refine ⟨by decide +kernel, by decide +kernel, by decide +kernel⟩

def portAuPrince : Zone :=
  { name := "America/Port-au-Prince".toList, first := ⟨-18000, false, "EST".toList⟩, trans := [] }

/-- **Witness 2 (code before the fix).**  A rendering with the key of a zone whose name contains
`-` was refused (`'America/Port-au-Prince'` was cut down to the zone `'Prince'`), for every
instant; the repaired parser takes the whole last word. -/
theorem parseOld_rejects_hyphenated_zone :
    render 0 946080000000000 0 (some portAuPrince) .full
      = some "1999-12-24 19:00:00 America/Port-au-Prince".toList ∧
    parseOld ⟨[portAuPrince], []⟩ "1999-12-24 19:00:00 America/Port-au-Prince".toList = .error .zone ∧
    parse ⟨[portAuPrince], []⟩ "1999-12-24 19:00:00 America/Port-au-Prince".toList = .ok 946080000000000 := by
  refine ⟨by decide +kernel, by decide +kernel, by decide +kernel⟩

-- durations: the three sub-second forms and a full decomposition
example : durFormat {} 90061000001 = "1d1h1m1s1us".toList := by decide +kernel
example : durFormat {} 60250000 = "1m250ms".toList := by decide +kernel
example : durFormat {} 10500000 = "10.5s".toList := by decide +kernel
example : durParse {} Generated.durUnits "10.5s".toList = .ok 10500000 := by decide +kernel

/-- the extracted constants satisfy the hypotheses of the theorems -/
theorem generated_cmp_wf :
    ({ eps := Generated.tsEpsilonUs, prec := Generated.tsPrecision } : CmpCfg).WF := by decide

theorem generated_units_ok : UnitsOk Generated.durUnits :=
  ⟨by decide, by decide, by decide, by decide, by decide, by decide, by decide, by decide⟩

/-- the separators blanked by the parser and the date format are the ones the model assumes -/
theorem generated_format :
    (∀ c, c ∈ Generated.tsSeps ↔ isSep c = true) ∧ Generated.tsFmt = "%Y-%m-%d %H:%M:%S" := by
  refine ⟨fun c => ?_, by decide⟩
  simp only [Generated.tsSeps, isSep, List.mem_cons, List.not_mem_nil, or_false, Bool.or_eq_true, beq_iff_eq]
  constructor
  · rintro (h | h | h) <;> subst h <;> decide
  · rintro ((h | h) | h) <;> subst h <;> decide

end Cpppo.Times
