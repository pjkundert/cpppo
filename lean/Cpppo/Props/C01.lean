import Cpppo.Proofs.Codec.Encap
import Cpppo.Proofs.Codec.Typed
import Cpppo.Generated.Tables

/-!
# C01 — Wire codec round-trip over the whole EtherNet/IP CIP message grammar

`Cpppo.Codec` is an encoder/decoder pair written directly from the CIP layout tables (it shares no code
with cpppo).  The theorems below say that for every well-formed message of the grammar — every field
value in range, every length, every number of segments / items / members / extended status words —
decoding the encoded bytes recovers exactly the message, consumes exactly those bytes, and hence that
re-encoding a decoded canonical encoding regenerates the original bytes.

The tie to the code (parts 1–3 of the property for cpppo itself) is the correspondence: on generated
messages cpppo's `produce` bytes are decoded by `decodeSvc`/`decodeMessage` to the same fields cpppo's own
parsers report, and `encode (decode bytes) = bytes` (the independent encoder yields cpppo's bytes).

`WF` predicates are the field ranges of the wire formats plus the canonical-form conditions the code
itself documents (no extended status with status 0; narrowest EPATH segment form; port ≥ 15 in extended
form).  `Bytes` are lists of unbounded `Nat`: the round trips hold whatever the one-byte fields contain, and that the
encoders emit values below 256 is not stated here (C14's `encoder_emits_bytes` says it of the reference encoder).
-/
namespace Cpppo.Codec
open Cpppo

/-- **Encapsulation frame: header fields, declared length, payload — and nothing of what follows.** -/
theorem frame_roundtrip (f : Frame) (rest : Bytes) (h : f.hdr.WF) (hl : f.payload.length < 65536) :
    decodeFrame (encodeFrame f ++ rest) = some (f, rest) := decodeFrame_encode f rest h hl

/-- a frame is exactly 24 bytes plus its payload -/
theorem frame_length (f : Frame) (h : f.hdr.context.length = 8) :
    (encodeFrame f).length = 24 + f.payload.length := encodeFrame_length f h

/-- **Whole message: header + Register / Unregister / List* / Legacy / SendRRData / SendUnitData command,
CPF items (null, connection id/data, unconnected send, communications service, identity, legacy,
unrecognised), Unconnected Send wrapper.** -/
theorem message_roundtrip (m : Message) (rest : Bytes) (h : m.WF) :
    decodeMessage (encodeMessage m ++ rest) = some (m, rest) := decodeMessage_encode m rest h

/-- **Every request and reply of the Logix-dialect, Object, Multiple Service Packet and Connection Manager
services (incl. small and large Forward Open).** -/
theorem service_roundtrip (s : Svc) (h : s.WF) : decodeSvc (encodeSvc s) = some s := decodeSvc_encode s h

/-- **Producing a parsed, canonically encoded message regenerates exactly the original bytes.** -/
theorem service_canonical (bs : Bytes) (h : ∃ s : Svc, s.WF ∧ encodeSvc s = bs) :
    (decodeSvc bs).map encodeSvc = some bs := by
  obtain ⟨s, hs, rfl⟩ := h
  rw [decodeSvc_encode s hs]; rfl

theorem message_canonical (bs : Bytes) (h : ∃ m : Message, m.WF ∧ encodeMessage m = bs) :
    (decodeMessage bs).map (fun p => encodeMessage p.1) = some bs := by
  obtain ⟨m, hm, rfl⟩ := h
  have := decodeMessage_encode m [] hm
  simp only [List.append_nil] at this
  rw [this]; rfl

/-- **EPATH: 0..N segments of every kind (class/instance/attribute/connection at 8/16 bit, element at
8/16/32 bit, symbolic of odd and even length, port/link with small and extended port numbers and numeric or
address-string links); size byte = words; plain and padded forms.** -/
theorem epath_roundtrip (padded : Bool) (segs : List Seg) (rest : Bytes) (h : EpathWF segs) :
    decodeEpath padded (encodeEpath (if padded then .padded else .plain) segs ++ rest) = some (segs, rest) :=
  decodeEpath_encode padded segs rest h

theorem epath_single_roundtrip (s : Seg) (rest : Bytes) (h : s.WF) :
    decodeSeg (encodeEpath .single [s] ++ rest) = some (s, rest) := decodeSingle_encode s rest h

/-- **Status with 0..N extended status words.** -/
theorem status_roundtrip (s : Status) (rest : Bytes) (h : s.WF) :
    decodeStatus (encodeStatus s ++ rest) = some (s, rest) := decodeStatus_encode s rest h

/-- **Strings of 0..255 / 0..65535 bytes; an odd-length STRING carries exactly one pad byte.** -/
theorem sstring_roundtrip (s rest : Bytes) : decodeSString (encodeSString s ++ rest) = some (s, rest) :=
  decodeSString_encode s rest

theorem string_roundtrip (s rest : Bytes) (h : s.length < 65536) :
    decodeString (encodeString s ++ rest) = some (s, rest) := decodeString_encode s rest h

theorem string_pad (s : Bytes) : (encodeString s).length = 2 + s.length + s.length % 2 := by
  rcases Nat.mod_two_eq_zero_or_one s.length with h | h <;> simp [encodeString, Bytes.le_length, h, Nat.add_assoc]

/-- **Forward Open network connection parameters: bit fields of the small and the large layout.** -/
theorem ncp_roundtrip (large : Bool) (p : Ncp) (h : p.WF large) : decodeNcp large (encodeNcp large p) = p :=
  decodeNcp_encode large p h

/-- **1..N bundled services: the offset table locates every member.** -/
theorem members_roundtrip (ms : List Bytes) (h : MembersWF ms) : decodeMembers (encodeMembers ms) = some ms :=
  decodeMembers_encode ms h

/-- **0..N CPF items.** -/
theorem cpf_roundtrip (cpf : Option (List Item)) (h : CpfWF cpf) : decodeCpf (encodeCpf cpf) = some cpf :=
  decodeCpf_encode cpf h

/-- **Typed data, integer element types at their full width (SINT…ULINT): `struct.unpack ∘ struct.pack = id`
for every representable value, any number of elements.** -/
theorem typed_int_roundtrip (t : CipType) (hi : t.isInt = true) (is : List Int) (bss : List Bytes)
    (h : is.mapM (Bytes.packInt t.signed t.size) = some bss) :
    decodeVals t bss.flatten = some (is.map .int) := decodeVals_int t hi is bss h

theorem typed_bool_roundtrip (bs : List Bool) :
    decodeVals .bool (bs.map fun b => if b then 255 else 0) = some (bs.map .bool) := decodeVals_bool bs

theorem typed_real_roundtrip (ws : List Nat) (h : ∀ w ∈ ws, w < 2 ^ 32 ∧ Float'.quiet32 w = w) :
    decodeVals .real ((ws.map (Bytes.le 4)).flatten) = some (ws.map .f32) := decodeVals_real ws h

theorem typed_lreal_roundtrip (ws : List Nat) (h : ∀ w ∈ ws, w < 2 ^ 64) :
    decodeVals .lreal ((ws.map (Bytes.le 8)).flatten) = some (ws.map .f64) := decodeVals_lreal ws h

/-! ### Tie: the constants the layout-table codec uses are the ones the live classes register
(`Cpppo.Generated` is regenerated from the imported modules on every run; a changed opcode, item id,
command or service code, or header field breaks one of these obligations) -/

theorem tie_header :
    Generated.codecHeaderSize = 24
    ∧ Generated.codecHeaderFields.map (fun f => (f.2.1, f.2.2))
        = [("<H", 2), ("<H", 2), ("<I", 4), ("<I", 4), ("octets", 8), ("<I", 4)] := by decide +kernel

theorem tie_epath_opcodes :
    Generated.epathOpcodes
      = [("attribute", 0x30), ("class", 0x20), ("connection", 0x2c), ("element", 0x28), ("instance", 0x24),
         ("port", 0x00), ("symbolic", 0x91)] := by decide +kernel

theorem tie_cpf_items :
    Generated.cpfItemIds = [0x0001, 0x000C, 0x00A1, 0x00B1, 0x00B2, 0x0100]
    ∧ Generated.cpfItemIds.all recognised = true := by decide +kernel

theorem tie_commands :
    Generated.encapCommands.map (·.1) = [0x0001, 0x0004, 0x0063, 0x0064, 0x0065, 0x0066, 0x006F, 0x0070] := by decide +kernel

theorem tie_services :
    Generated.objectServices
      = [("GA_ALL", 0x01), ("GA_LST", 0x03), ("GA_SNG", 0x0E), ("SA_SNG", 0x10), ("MULTIPLE", 0x0A),
         ("FWD_OPEN", 0x54), ("FWD_OPLG", 0x5B), ("FWD_CLOS", 0x4E)]
    ∧ (Generated.svcReadTag, Generated.svcReadFrag, Generated.svcWriteTag, Generated.svcWriteFrag)
        = (0x4C, 0x52, 0x4D, 0x53) := by decide +kernel

/-! ### A concrete SendRRData request: its bytes, and the round trips evaluated on it -/

def demoReq : Svc := .readFragReq [.sym [83, 67, 65, 68, 65], .elem 300] 4 8

example : decodeSvc (encodeSvc demoReq) = some demoReq := by decide +kernel

example : encodeSvc demoReq = [0x52, 6, 0x91, 5, 83, 67, 65, 68, 65, 0, 0x29, 0, 0x2c, 1, 4, 0, 8, 0, 0, 0] := by
  decide +kernel

def demoMsg : Message :=
  { hdr := { command := 0x6F, session := 0x12345678, status := 0, context := [1, 2, 3, 4, 5, 6, 7, 8], options := 0 }
    cmd := .sendData 0 5 (some [
      { typeId := 0, body := .empty },
      { typeId := 0xB2, body := .usend (.send [.cls 6, .ins 1] 5 157 (encodeSvc demoReq) [.port 1 (.num 0)]) }]) }

example : decodeMessage (encodeMessage demoMsg ++ [9, 9]) = some (demoMsg, [9, 9]) := by decide +kernel

example : (encodeMessage demoMsg).length = 24 + 50 := by decide +kernel

end Cpppo.Codec
