import Cpppo.Proofs.ClientPipeline
import Cpppo.Proofs.ClientPath
import Cpppo.Proofs.ClientOps
import Cpppo.Generated.Tables

/-!
# C12 — Client results do not depend on pipelining depth or request bundling

Theorems about the models `Cpppo.Client.issue` / `pipeline` / `synchronous` / `operate`
(`connector.issue`, `.pipeline`, `.synchronous`, `.operate`) and `parsePathElements` / `formatPath`
/ `parseOperation` (`device.parse_path_elements`, `client.format_path`, `client.parse_operations`).

Quantification: every operation list (over an arbitrary type of operations `α`), every size-estimate
function, every bundle key (route/send path identity), every `multiple`, every `depth` (any integer),
every starting index, and every device `step : σ → α → σ × ρ` answering each request of each packet in
order (the abstraction justified by C06/C07).  `fragment` only selects the request form
(`reqKind`): the theorems hold for the request list of either setting.

Hypothesis: `index + ops.length ≤ 10^8` — the sender context carries `str(index)` in 8 bytes;
`context_overflow` shows the model (and, by the correspondence, the code) failing beyond it.
-/
namespace Cpppo.Client
open Cpppo.Py

variable {α κ σ ρ : Type} [DecidableEq κ]

/-- the replies of the device to the operations one by one, in operation order -/
def sequential (step : σ → α → σ × ρ) (s0 : σ) (ops : List α) : List ρ := (runMembers step s0 ops).2

/-! ## bundling -/

/-- **Nothing lost, duplicated or reordered**: the members of the packets, concatenated, are the
operations. -/
theorem issue_partition (est : α → Nat × Nat) (key : α → κ) (multiple rmin pmin index : Nat)
    (ops : List α) :
    (issue est key multiple rmin pmin index ops).flatMap Packet.members = ops :=
  issue_members est key multiple rmin pmin index ops

/-- **Bundling never mixes operations with different route or send paths**: every member of a
packet has the key of the packet's first member. -/
theorem issue_homogeneous (est : α → Nat × Nat) (key : α → κ) (multiple rmin pmin index : Nat)
    (ops : List α) :
    ∀ p ∈ issue est key multiple rmin pmin index ops, ∀ a ∈ p.members, ∀ b ∈ p.members,
      key a = key b :=
  issue_same_key est key multiple rmin pmin index ops

/-- **Packet indices are `index, index+1, …`**, no packet is empty, and without `multiple` every
packet carries exactly one operation and is not a Multiple Service Packet. -/
theorem issue_index_monotone (est : α → Nat × Nat) (key : α → κ) (multiple rmin pmin index : Nat)
    (ops : List α) :
    (issue est key multiple rmin pmin index ops).map Packet.index
        = List.range' index (issue est key multiple rmin pmin index ops).length
    ∧ (∀ p ∈ issue est key multiple rmin pmin index ops, p.members ≠ [])
    ∧ (multiple = 0 → ∀ p ∈ issue est key multiple rmin pmin index ops,
        p.bundled = false ∧ ∃ a, p.members = [a]) := by
  refine ⟨issue_indices est key multiple rmin pmin index ops,
    issue_nonempty est key multiple rmin pmin index ops, ?_⟩
  intro h p hp
  subst h
  exact issueSingle_shape index ops p (by simpa [issue] using hp)

/-- all packet indices of an issue stay below the context limit -/
theorem issue_ctx_ok (est : α → Nat × Nat) (key : α → κ) (multiple rmin pmin index : Nat)
    (ops : List α) (h : index + ops.length ≤ 10 ^ 8) :
    ∀ p ∈ issue est key multiple rmin pmin index ops, ctxEq p.index p.index = true := by
  intro p hp
  apply ctxEq_of_lt
  have hidx := issue_indices est key multiple rmin pmin index ops
  have hlen := issue_length_le est key multiple rmin pmin index ops
  have : p.index ∈ (issue est key multiple rmin pmin index ops).map Packet.index :=
    List.mem_map_of_mem hp
  rw [hidx, List.mem_range'_1] at this
  omega

/-! ## pipelining -/

/-- what every entry point yields: the items in issue order, each with the reply of the in-order
device -/
def expected (step : σ → α → σ × ρ) (s0 : σ) (ps : List (Packet α)) : List (Nat × ρ) :=
  List.zipWith mk (flatItems ps) (future step s0 ps)

theorem expected_bodies (step : σ → α → σ × ρ) (s0 : σ) (est : α → Nat × Nat) (key : α → κ)
    (multiple rmin pmin index : Nat) (ops : List α) :
    (expected step s0 (issue est key multiple rmin pmin index ops)).map Prod.snd
      = sequential step s0 ops := by
  rw [expected, zipWith_mk, List.map_snd_zip (by simp [future_length]), future_bodies, issue_members]
  rfl

/-- **`pipeline` at any depth harvests every issued item exactly once, in order, and completes.** -/
theorem pipeline_results (step : σ → α → σ × ρ) (depth : Int) (est : α → Nat × Nat) (key : α → κ)
    (multiple rmin pmin index : Nat) (s0 : σ) (ops : List α) (h : index + ops.length ≤ 10 ^ 8) :
    pipeline step depth index s0 (issue est key multiple rmin pmin index ops)
      = (expected step s0 (issue est key multiple rmin pmin index ops), Outcome.ok) :=
  pipeline_spec step depth index s0 _ (issue_nonempty est key multiple rmin pmin index ops)
    (issue_ctx_ok est key multiple rmin pmin index ops h)

theorem synchronous_results (step : σ → α → σ × ρ) (est : α → Nat × Nat) (key : α → κ)
    (multiple rmin pmin index : Nat) (s0 : σ) (ops : List α) (h : index + ops.length ≤ 10 ^ 8) :
    synchronous step s0 (issue est key multiple rmin pmin index ops)
      = (expected step s0 (issue est key multiple rmin pmin index ops), Outcome.ok) :=
  synchronous_spec step s0 _ (issue_nonempty est key multiple rmin pmin index ops)
    (issue_ctx_ok est key multiple rmin pmin index ops h)

theorem operate_results (step : σ → α → σ × ρ) (depth : Nat) (est : α → Nat × Nat) (key : α → κ)
    (multiple rmin pmin index : Nat) (s0 : σ) (ops : List α) (h : index + ops.length ≤ 10 ^ 8) :
    operate step depth index s0 (issue est key multiple rmin pmin index ops)
      = (expected step s0 (issue est key multiple rmin pmin index ops), Outcome.ok) := by
  unfold operate
  split
  · exact synchronous_results step est key multiple rmin pmin index s0 ops h
  · exact pipeline_results step depth est key multiple rmin pmin index s0 ops h

/-- **One result per operation, in operation order, with the statuses and values of the one-by-one
execution — for every depth, every bundle limit, every estimate, every key function.** -/
theorem results_invariant (step : σ → α → σ × ρ) (depth : Nat) (est : α → Nat × Nat) (key : α → κ)
    (multiple rmin pmin index : Nat) (s0 : σ) (ops : List α) (h : index + ops.length ≤ 10 ^ 8) :
    (operate step depth index s0 (issue est key multiple rmin pmin index ops)).2 = Outcome.ok
    ∧ (operate step depth index s0 (issue est key multiple rmin pmin index ops)).1.map Prod.snd
        = sequential step s0 ops
    ∧ (operate step depth index s0 (issue est key multiple rmin pmin index ops)).1.length
        = ops.length := by
  rw [operate_results step depth est key multiple rmin pmin index s0 ops h]
  have hb := expected_bodies step s0 est key multiple rmin pmin index ops
  exact ⟨rfl, hb, by simpa [sequential, runMembers_length] using congrArg List.length hb⟩

/-- **Any two settings give the same result sequence** (different depth, bundle limit, estimates,
path keys and starting index; pipeline or synchronous). -/
theorem results_independent (step : σ → α → σ × ρ) (s0 : σ) (ops : List α)
    (d1 d2 : Nat) (est1 est2 : α → Nat × Nat) (key1 key2 : α → κ) (m1 m2 r1 r2 p1 p2 i1 i2 : Nat)
    (h1 : i1 + ops.length ≤ 10 ^ 8) (h2 : i2 + ops.length ≤ 10 ^ 8) :
    (operate step d1 i1 s0 (issue est1 key1 m1 r1 p1 i1 ops)).1.map Prod.snd
      = (operate step d2 i2 s0 (issue est2 key2 m2 r2 p2 i2 ops)).1.map Prod.snd := by
  rw [(results_invariant step d1 est1 key1 m1 r1 p1 i1 s0 ops h1).2.1,
    (results_invariant step d2 est2 key2 m2 r2 p2 i2 s0 ops h2).2.1]

/-- the index yielded with a result is the index of the packet that carried the operation -/
theorem results_indices (step : σ → α → σ × ρ) (depth : Nat) (est : α → Nat × Nat) (key : α → κ)
    (multiple rmin pmin index : Nat) (s0 : σ) (ops : List α) (h : index + ops.length ≤ 10 ^ 8) :
    (operate step depth index s0 (issue est key multiple rmin pmin index ops)).1.map Prod.fst
      = (flatItems (issue est key multiple rmin pmin index ops)).map Prod.fst := by
  rw [operate_results step depth est key multiple rmin pmin index s0 ops h, expected, zipWith_mk,
    List.map_fst_zip (by simp [future_length])]

/-- the `pipeline` entry point itself, for any (also negative) depth -/
theorem pipeline_invariant (step : σ → α → σ × ρ) (depth : Int) (est : α → Nat × Nat) (key : α → κ)
    (multiple rmin pmin index : Nat) (s0 : σ) (ops : List α) (h : index + ops.length ≤ 10 ^ 8) :
    (pipeline step depth index s0 (issue est key multiple rmin pmin index ops)).2 = Outcome.ok
    ∧ (pipeline step depth index s0 (issue est key multiple rmin pmin index ops)).1.map Prod.snd
        = sequential step s0 ops := by
  rw [pipeline_results step depth est key multiple rmin pmin index s0 ops h]
  have hb := expected_bodies step s0 est key multiple rmin pmin index ops
  exact ⟨rfl, hb⟩

/-- `fragment` only chooses between Read/Write Tag and Read/Write Tag Fragmented, and only for
operations that do not say themselves (no 'offset' entry) -/
theorem fragment_only_selects_service (op : Op) (h : op.offset ≠ none) :
    reqKind true op = reqKind false op := by
  unfold reqKind
  cases ho : op.offset with
  | none => exact absurd ho h
  | some o => cases o <;> rfl

/-! ## the same operation list, issued again -/

/-- `issue` works on `op.copy()`: the caller's operation dicts are as before -/
theorem issue_leaves_caller_list (fragment : Bool) (ops : List RawOp) :
    callerAfter true fragment ops = ops := rfl

/-- **Every pass over the same list object acts on the same operations**, whatever settings the
list was issued under before: the k-th pass sees `ops` resolved for its own `fragment` only. -/
theorem passes_see_same_operations (ops : List RawOp) (ps : List Pass) :
    passOps true ops ps = ps.map fun p => ops.map (RawOp.toOp p.fragment) := by
  induction ps generalizing ops with
  | nil => rfl
  | cons p ps ih => simp only [passOps, List.map_cons, issue_leaves_caller_list, ih]

/-- **Re-issuing gives the same results**: for any history of earlier passes `before`, a pass with
setting `p` (any entry depth, bundle limit, estimates, keys, device) over the same list yields one
result per operation with the bodies of the one-by-one execution of `ops` - exactly what a first pass
yields. -/
theorem reissue_results_invariant (step : σ → Op → σ × ρ) (depth : Nat) (est : Op → Nat × Nat)
    (key : Op → κ) (multiple rmin pmin index : Nat) (s0 : σ) (ops : List RawOp)
    (before : List Pass) (p : Pass) (h : index + ops.length ≤ 10 ^ 8) :
    ∃ seen, (passOps true ops (before ++ [p])).getLast? = some seen
      ∧ seen = ops.map (RawOp.toOp p.fragment)
      ∧ (operate step depth index s0 (issue est key multiple rmin pmin index seen)).2 = Outcome.ok
      ∧ (operate step depth index s0 (issue est key multiple rmin pmin index seen)).1.map Prod.snd
          = sequential step s0 (ops.map (RawOp.toOp p.fragment)) := by
  refine ⟨ops.map (RawOp.toOp p.fragment), ?_, rfl, ?_, ?_⟩
  · rw [passes_see_same_operations]; simp
  · exact (results_invariant step depth est key multiple rmin pmin index s0 _ (by simpa using h)).1
  · exact (results_invariant step depth est key multiple rmin pmin index s0 _ (by simpa using h)).2.1

/-- Without the copy (`callerAfter false`) the second pass finds 'method' popped: a Get Attribute
Single operation is issued as a Read Tag [Fragmented], a Set Attribute Single as a Write Tag
[Fragmented], and the pinned
'offset' of the first pass overrides the second pass's `fragment`. -/
theorem aliasing_changes_second_pass :
    let gas : RawOp := { method := some Method.gas }
    let sas : RawOp := { method := some Method.sas, hasData := true, ndata := 4 }
    let rd : RawOp := {}
    let p1 : Pass := { via := 0, depth := 0, multiple := 0, fragment := false }
    let p2 : Pass := { via := 1, depth := 2, multiple := 0, fragment := true }
    (passOps false [gas, sas, rd] [p1, p2]).map (fun l => l.map fun o => reqKind false o)
        = [[ReqKind.gas, ReqKind.sas, ReqKind.readTag], [ReqKind.readFrag, ReqKind.writeFrag, ReqKind.readTag]]
    ∧ (passOps true [gas, sas, rd] [p1, p2]).map (fun l => l.map fun o => reqKind false o)
        = [[ReqKind.gas, ReqKind.sas, ReqKind.readTag], [ReqKind.gas, ReqKind.sas, ReqKind.readFrag]] := by
  decide +kernel

/-! ## grammar: a formatted path parses back to the same segments -/

/-- the path shapes `format_path` documents -/
inductive WFPath : List Seg → Prop
  | symbolic (n : Str) (ms : List Str) (hok : ∀ m ∈ n :: ms, NameOk m) : WFPath ((n :: ms).map Seg.sym)
  | numeric (c : Nat) (rest : List Nat) (hr : rest.length ≤ 2) : WFPath (stdSegs c rest)

/-- **A formatted path parses back to the same segments**, the element index and the element
count: symbolic tags `A.B.C` and numeric `@class[/instance[/attribute]]` (hexadecimal class,
decimal rest), with `[elem]` or `[elem-last]` when an element segment (and a count) is given. -/
theorem format_parse_path (body : List Seg) (hwf : WFPath body) (elem count : Option Nat)
    (hc : ∀ c, count = some c → 0 < c) :
    ∃ text, formatPath (body ++ elemSegs elem) (count.map fun c => (c : Int)) = some text
      ∧ parsePathElements text
          = Except.ok (body ++ elemSegs elem, elem.map (fun e => (e : Int)), countOut elem count) := by
  cases hwf with
  | symbolic n ms hok =>
    exact ⟨_, format_body (.symbolic n ms) hok elem count hc, parse_body (.symbolic n ms) hok elem count hc⟩
  | numeric c rest hr =>
    exact ⟨_, format_body (.numeric c rest) hr elem count hc, parse_body (.numeric c rest) hr elem count hc⟩

/-! ## grammar: an operation text denotes the operation it spells -/

/-- the type table extracted from the live `client.CIP_TYPES` -/
def liveTypes : List CipType :=
  Generated.clientCipTypes.map fun (n, tt, sz, k, lo, hi) =>
    { name := n.toList, tagType := tt, size := sz,
      kind := if k = 0 then Kind.str else if k = 1 then Kind.bool else if k = 2 then Kind.real
              else Kind.int lo hi }

/-- **A textual operation description denotes exactly the operation it spells**: for every path
(symbolic tag levels or numeric class/instance/attribute), element index, range or `*count`, byte
offset, and `=(TYPE)v,v,...` list of in-range integers of a type of the table (with consistent
counts: `OpSpec.Ok`), `parse_operations` yields the operation with that path, element segment, count,
offset, tag type and data. -/
theorem parse_operation_spells (types : List CipType) (fragment : Bool) (intType : Str) (s : OpSpec)
    (hs : s.Ok types fragment intType) :
    parseOperation types fragment intType s.text = Except.ok (s.denote fragment) := by
  obtain ⟨hb, hp, hw⟩ := hs
  have hpath : parsePathElements (s.body.text ++ s.place.text) none none
      = Except.ok (withElem s.body.segs s.place.E, s.place.E, s.place.C) :=
    parse_body_tail s.body hb.ok s.place.text ((over_place s.place).not_mem (by decide) (by decide)) _ _ (place_tail s.place hp)
  unfold parseOperation
  rw [splitEq_spec s hb fun w h => (hw w h).2.2.2.1]
  simp only [splitOff_spec s hb, hpath]
  cases hwr : s.write with
  | none =>
    simp [OpSpec.denote, OpSpec.elements, hwr]
  | some w =>
    obtain ⟨hint, hwk⟩ := hw w hwr
    have hne : rhsText w ≠ [] := by simp [rhsText]
    simp only [hne, if_false]
    rw [parseValues_rhs types fragment intType _ w hint hwk,
      checkCounts_ok fragment s.offset s.place.C w types hwk _ rfl rfl]
    simp [OpSpec.denote, OpSpec.elements, hwr]

/-- every integer type of the live table can be written by name (the hypotheses of `WriteSpec.Ok`
about the type hold for all of them) -/
theorem live_int_types_nameable :
    ∀ t ∈ liveTypes, (∃ lo hi, t.kind = Kind.int lo hi) →
      lookupType liveTypes t.name = some t ∧ upper t.name = t.name ∧ ∀ c ∈ t.name, isAlnum c = true := by
  rintro t ht -
  revert t
  decide +kernel

/-- `get_attribute.attribute_operations` chooses the service from the last path segment -/
theorem attribute_method_of_path (op : OpD) (segs : List Seg) (k : Str) (v : Int)
    (hp : op.path = segs ++ [Seg.dict [(k, v)]]) :
    attributeMethod op =
      if k = kInstance then (if op.data.isSome then Except.error Err.reject else Except.ok AttrMethod.getAll)
      else if k = kSymbolic ∨ k = kAttribute ∨ k = kElement then
        Except.ok (if op.data.isSome then AttrMethod.setSingle else AttrMethod.getSingle)
      else Except.error Err.reject := by
  unfold attributeMethod
  rw [hp, List.getLast?_concat]
  -- the key tests on the one-entry dict become equations on `k`; `pure`/`throw` unfold to the constructors
  simp only [hasKey, List.any_cons, List.any_nil, Bool.or_false, Bool.or_eq_true, beq_iff_eq, or_assoc]
  rfl

/-! ## non-vacuity, witnesses -/

section Examples

def cfg0 : Cfg := { sizes := [(195, 2), (196, 4), (194, 1), (198, 1), (202, 4)] }

def rd (el : Nat) (ro : Nat := 0) : Op := { method := Method.read, elements := some el, route := ro }
def wr (n : Nat) : Op := { method := Method.write, ndata := n, tagType := some 196 }

/-- bundling at limit 150: three operations fit (request estimate 68+22+36+22 = 148); the operation
with another route path travels alone, and so does the one after it (route differs again) -/
example : (issueOps cfg0 150 0 [rd 1, wr 3, rd 10, rd 1 7, rd 1]).map (fun p => (p.index, p.members.length))
    = [(0, 3), (1, 1), (2, 1)] := by decide +kernel

/-- The estimate of the operation that starts a new bundle after a flush is not added to the fresh
totals (the code's quirk, mirrored): of four 40-element reads (reply estimate 4+160 each) at limit
300 the first travels alone (68+164+164 ≥ 300), but the second and third are bundled although their
estimate is 68 + 2*164 = 396 ≥ 300 as well. -/
example : (issueOps cfg0 300 0 [rd 40, rd 40, rd 40, rd 40]).map (fun p => p.members.length) = [1, 2, 1] := by
  decide +kernel

example : ∀ p ∈ issueOps cfg0 150 0 [rd 1, wr 3, rd 10, rd 1 7, rd 1], p.members ≠ [] := by decide +kernel

/-- the hypotheses of `results_invariant` hold and the conclusion is not trivial: a counter device -/
example : (operate (fun (s : Nat) (o : Op) => (s + 1, s * 10 + o.ndata)) 2 5 0
      (issueOps cfg0 150 5 [rd 1, wr 3, rd 10, rd 1 7, rd 1])).1
    = [(5, 0), (5, 13), (5, 20), (6, 30), (7, 40)] := by decide +kernel

example : NameOk "Motor_7".toList := by decide +kernel
example : WFPath [Seg.sym "A".toList, Seg.sym "B".toList] :=
  WFPath.symbolic "A".toList ["B".toList] (by decide +kernel)

example : formatPath (stdSegs 0x99 [1, 2] ++ elemSegs (some 5)) (some 3) = some "@0x0099/1/2[5-7]".toList := by
  decide +kernel

example : (parsePathElements "@0x0099/1/2[5-7]".toList).toOption
    = some (stdSegs 0x99 [1, 2] ++ elemSegs (some 5), some 5, some 3) := by decide +kernel

/-- outside `WFPath`: an element segment between symbolic segments is moved to the end by
`format_path`, so the text parses to different segments -/
theorem interleaved_element_not_preserved :
    formatPath [Seg.sym "A".toList, elemSeg 1, Seg.sym "B".toList] none = some "A.B[1]".toList
    ∧ (parsePathElements "A.B[1]".toList).toOption
        = some ([Seg.sym "A".toList, Seg.sym "B".toList, elemSeg 1], some 1, none) := by
  decide +kernel

def tDINT : CipType := { name := "DINT".toList, tagType := 196, size := 4, kind := Kind.int (-2147483648) 4294967295 }

/-- the docstring's `TAG[4-7]=1,2,3,4`, with a cast and a negative value -/
def exWrite : OpSpec :=
  { body := PathBody.symbolic "TAG".toList [], place := { elem := some 4, count := some 4 },
    write := some { ty := tDINT, lo := -2147483648, hi := 4294967295, vals := [1, -2, 3, 4] } }

example : exWrite.text = "TAG[4-7]=(DINT)1,-2,3,4".toList := by decide +kernel

theorem exWrite_ok : exWrite.Ok liveTypes false "INT".toList := by
  refine ⟨by decide +kernel, by decide +kernel, ?_⟩
  rintro w ⟨⟩
  exact ⟨by decide +kernel, by decide +kernel, by decide +kernel, by decide +kernel, rfl, by decide +kernel,
    (if_pos (by decide +kernel)).mpr (Or.inr (by decide +kernel))⟩

example : parseOperation liveTypes false "INT".toList "TAG[4-7]=(DINT)1,-2,3,4".toList
    = Except.ok { write := true, offset := none, path := [Seg.sym "TAG".toList, elemSeg 4],
                  elements := some 4, tagType := some 196,
                  data := some [Val.int 1, Val.int (-2), Val.int 3, Val.int 4] } := by
  have h := parse_operation_spells liveTypes false "INT".toList exWrite exWrite_ok
  rw [show exWrite.text = "TAG[4-7]=(DINT)1,-2,3,4".toList by decide +kernel] at h
  exact h.trans (congrArg Except.ok (by decide +kernel))

/-- a fragmented write at a byte offset: `@0x0099/1/2[0-3]+8=(DINT)7,8` (elements 2..3 of 4) -/
def exFrag : OpSpec :=
  { body := PathBody.numeric 0x99 [1, 2], place := { elem := some 0, count := some 4 }, offset := some 8,
    write := some { ty := tDINT, lo := -2147483648, hi := 4294967295, vals := [7, 8] } }

example : exFrag.text = "@0x0099/1/2[0-3]+8=(DINT)7,8".toList := by decide +kernel

example : exFrag.Ok liveTypes true "INT".toList := by
  refine ⟨by decide +kernel, by decide +kernel, ?_⟩
  rintro w ⟨⟩
  exact ⟨by decide +kernel, by decide +kernel, by decide +kernel, by decide +kernel, rfl, by decide +kernel,
    (if_neg (by decide +kernel)).mpr ⟨4, by decide +kernel⟩⟩

/-- a read with a `*count`: `Tag.Sub[3]*5` -/
example : ({ body := PathBody.symbolic "Tag".toList ["Sub".toList],
             place := { elem := some 3, count := some 5, star := true } } : OpSpec).text
    = "Tag.Sub[3]*5".toList := by decide +kernel

end Examples

/-- **Beyond the hypothesis**: at index 10^8 the 8-byte sender context no longer holds `str(index)`,
and harvest's context assertion fires although the device answered correctly. -/
theorem context_overflow :
    ctxEq (10 ^ 8) (10 ^ 8) = false
    ∧ pipeline (fun (s : Nat) (_ : Nat) => (s + 1, s)) 1 (10 ^ 8 - 1) 0
        (issue (fun _ => (0, 0)) (fun _ => ()) 0 0 0 (10 ^ 8 - 1) [7, 8])
      = ([(10 ^ 8 - 1, 0)], Outcome.mismatch) := by
  constructor <;> decide +kernel

end Cpppo.Client
