import Cpppo.Proofs.ConcurrentArr
import Cpppo.Proofs.ConcurrentLgx
import Cpppo.Proofs.Forwards
import Cpppo.Proofs.ForwardsThreads
import Cpppo.Proofs.ForwardsSpec

/-!
# C09 — Concurrent sessions are isolated and each request is atomic

About `Cpppo.Concurrent.runSched` (model of: one thread per connection, shared parsers under
`dfa_base.lock`, bundle members parsed one by one with the lock released in between, ONE atomic
slice operation on the shared tag storage per request, one reply frame per request frame).

The theorems quantify over **every schedule** (`sched : List Sid`, any length, any number of sessions:
a blocked or finished thread that is scheduled does nothing, so every list is an interleaving that
respects program order and lock exclusion), every program `prog : Sid → List (Frame τ)` (frames of
one request or of bundle members, parsed by any shared parsers), every initial memory, and — for the
generic ones — every atomic operation `exec`, so they hold for the array instance `execOp` and for the
Logix device model `execLgx` alike.

PARTIAL with respect to the property as stated about the running simulator: that CPython executes one
`list` slice read / slice assignment atomically, that `threading.Lock` excludes, and that the OS/GIL
produces only interleavings of the modelled steps are *assumptions* of the model (named in
notes/C09.md); real schedules are sampled by the correspondence, not enumerated.  The two
`…_counterexample` theorems show that the statements are sensitive to exactly these assumptions.
-/
namespace Cpppo.Concurrent

variable {σ τ α : Type}

/-! ## linearizability -/

/-- **All replies and the shared memory are those of ONE sequential order of whole requests that
respects every session's own order** (witness: the order of the access steps).  Holds at every moment
of every schedule: what has been executed for session `s` is a prefix of `s`'s own program, in
program order; what `s` has been sent so far is a prefix of what that sequential run answers `s`. -/
theorem linearizable (exec : σ → List τ → σ × α) (m0 : σ) (prog : Sid → List (Frame τ)) (sched : List Sid) :
    let st := runSched exec (init m0 prog) sched
    ∃ order : List (Sid × List τ),
      (∀ s, proj s order <+: requests (prog s)) ∧
      st.mem = (runSeq exec m0 order).1 ∧
      (∀ s, (st.thr s).sent.flatten <+: proj s (runSeq exec m0 order).2) := by
  intro st
  have h := inv_run exec m0 prog sched
  exact ⟨st.hist, fun s => ⟨_, h.ord s⟩, h.mem, fun s => h.rep s ▸ sent_prefix_got _ _⟩

/-- **When every session has been answered completely**: the sequential order contains exactly every
session's requests in that session's order, every session received exactly the replies that order
gives to its own requests — none missing, none duplicated, none of another session — framed exactly
as its request frames were (a bundle of `n` members is answered by one frame of `n` replies). -/
theorem linearizable_complete (exec : σ → List τ → σ × α) (m0 : σ) (prog : Sid → List (Frame τ))
    (sched : List Sid) (hfin : ∀ s, ((runSched exec (init m0 prog) sched).thr s).finished = true) :
    let st := runSched exec (init m0 prog) sched
    ∃ order : List (Sid × List τ),
      (∀ s, proj s order = requests (prog s)) ∧
      st.mem = (runSeq exec m0 order).1 ∧
      (∀ s, (st.thr s).sent.flatten = proj s (runSeq exec m0 order).2) ∧
      (∀ s, (st.thr s).sent.map List.length = (prog s).map List.length) ∧
      (∀ s, (st.thr s).sent.flatten.length = (requests (prog s)).length) := by
  intro st
  have h : Inv exec m0 prog st := inv_run exec m0 prog sched
  have hfin : ∀ s, (st.thr s).finished = true := hfin
  -- a finished thread is between two frames with none left: its view is what it has sent
  have hview : ∀ s, (st.thr s).view st.scratch = ⟨[], (st.thr s).sent.flatten, (st.thr s).sent.map List.length⟩ := by
    intro s
    have := hfin s
    unfold Thread.finished at this
    split at this
    · rename_i h1 h2; simp [Thread.view, h1, h2, requests_nil]
    · cases this
  have hord : ∀ s, proj s st.hist = requests (prog s) := fun s => by simpa [hview s] using h.ord s
  have hrep : ∀ s, (st.thr s).sent.flatten = proj s (runSeq exec m0 st.hist).2 := fun s => by
    simpa [hview s] using h.rep s
  have hfrm : ∀ s, (st.thr s).sent.map List.length = (prog s).map List.length := fun s => by
    simpa [hview s] using h.frm s
  refine ⟨st.hist, hord, h.mem, hrep, hfrm, fun s => ?_⟩
  -- both sides are the sum of the frame sizes
  rw [List.length_flatten, hfrm s]
  simp [requests, Function.comp_def]

/-! ## isolation -/

/-- **The `i`-th reply a session receives answers that session's own `i`-th request**, evaluated on
the memory left by a sequential prefix of the linear order — it depends on nothing else: not on which
frames other sessions' requests travelled in, not on how the parse steps interleaved. -/
theorem isolation (exec : σ → List τ → σ × α) (m0 : σ) (prog : Sid → List (Frame τ)) (sched : List Sid)
    (s : Sid) (i : Nat) (a : α)
    (hrep : ((runSched exec (init m0 prog) sched).thr s).sent.flatten[i]? = some a) :
    ∃ (pre post : List (Sid × List τ)) (w : List τ),
      (runSched exec (init m0 prog) sched).hist = pre ++ (s, w) :: post ∧
      (proj s pre).length = i ∧
      (requests (prog s))[i]? = some w ∧
      (∀ e ∈ pre, e.2 ∈ requests (prog e.1)) ∧
      a = (exec (runSeq exec m0 pre).1 w).2 := by
  have h := inv_run exec m0 prog sched
  generalize runSched exec (init m0 prog) sched = st at h hrep
  have h1 : (proj s (runSeq exec m0 st.hist).2)[i]? = some a := by
    obtain ⟨rs, hrs⟩ := sent_prefix_got st.scratch (st.thr s)
    rw [← h.rep s, ← hrs, List.getElem?_append_left (List.getElem?_eq_some_iff.mp hrep).1]
    exact hrep
  obtain ⟨pre, post, w, hsplit, hlen, ha⟩ := proj_runSeq_getElem h1
  refine ⟨pre, post, w, hsplit, hlen, ?_, ?_, ha⟩
  · have := h.ord s
    rw [hsplit, proj_append, proj_cons_same, List.append_assoc] at this
    rw [← this, List.getElem?_append_right (by omega), hlen]
    simp
  · intro e he
    exact hist_mem_prog h e (by rw [hsplit]; exact List.mem_append_left _ he)

/-- **Requests take effect atomically**: whatever property of the shared memory every whole request
preserves holds in every state a reply was computed from — no reply ever observes a state in which a
request of another session has taken effect only in part. -/
theorem atomic_invariant (exec : σ → List τ → σ × α) (m0 : σ) (prog : Sid → List (Frame τ)) (sched : List Sid)
    (I : σ → Prop) (h0 : I m0)
    (hpres : ∀ s w, w ∈ requests (prog s) → ∀ m, I m → I (exec m w).1) :
    let st := runSched exec (init m0 prog) sched
    I st.mem ∧
    ∀ (s : Sid) (i : Nat) (a : α), (st.thr s).sent.flatten[i]? = some a →
      ∃ (m : σ) (w : List τ), I m ∧ (requests (prog s))[i]? = some w ∧ a = (exec m w).2 := by
  intro st
  have h := inv_run exec m0 prog sched
  have hI : ∀ l : List (Sid × List τ), (∀ e ∈ l, e.2 ∈ requests (prog e.1)) → I (runSeq exec m0 l).1 :=
    fun l hl => runSeq_invariant exec I _ _ h0 fun e he m hm => hpres e.1 e.2 (hl e he) m hm
  refine ⟨by rw [h.mem]; exact hI _ (hist_mem_prog h), fun s i a ha => ?_⟩
  obtain ⟨pre, post, w, _, _, hw, hpre, rfl⟩ := isolation exec m0 prog sched s i a ha
  exact ⟨_, w, hI _ hpre, hw, rfl⟩

/-- **No parse corruption**: whatever interleaving of parse steps happened, every request that was
ever executed on behalf of session `s` is, symbol for symbol, one of the requests `s` itself sent. -/
theorem no_parse_corruption (exec : σ → List τ → σ × α) (m0 : σ) (prog : Sid → List (Frame τ)) (sched : List Sid) :
    ∀ e ∈ (runSched exec (init m0 prog) sched).hist, e.2 ∈ requests (prog e.1) :=
  hist_mem_prog (inv_run exec m0 prog sched)

/-- **Lock exclusion**: at every moment of every schedule at most one thread is inside a given shared
parser, and a parser's lock is held exactly by the thread that is inside it. -/
theorem parser_exclusive (exec : σ → List τ → σ × α) (m0 : σ) (prog : Sid → List (Frame τ)) (sched : List Sid) :
    let st := runSched exec (init m0 prog) sched
    (∀ s s' p, (st.thr s).pc.inside = some p → (st.thr s').pc.inside = some p → s = s') ∧
    (∀ s p, st.lock p = some s ↔ (st.thr s).pc.inside = some p) := by
  intro st
  have h := inv_run exec m0 prog sched
  exact ⟨fun s s' p h1 h2 => h.excl h1 h2, h.lock⟩

/-- **No deadlock**: as long as some session has not been answered completely, some thread can take a
step (a thread blocked on a parser is waiting for a thread that is inside it and can always move). -/
theorem no_deadlock (exec : σ → List τ → σ × α) (m0 : σ) (prog : Sid → List (Frame τ)) (sched : List Sid)
    (s : Sid) (hs : ((runSched exec (init m0 prog) sched).thr s).finished = false) :
    ∃ s', (nextKind (runSched exec (init m0 prog) sched) s').enabled = true :=
  inv_no_deadlock (inv_run exec m0 prog sched) s hs

/-- every enabled step strictly reduces the work its thread has left and leaves the others' alone:
together with `no_deadlock`, every fair schedule answers every request. -/
theorem step_progress (exec : σ → List τ → σ × α) (st : State σ τ α) (s : Sid)
    (hen : (nextKind st s).enabled = true) :
    ((step exec st s).thr s).work + 1 = (st.thr s).work ∧
    ∀ s', s' ≠ s → ((step exec st s).thr s').work = (st.thr s').work :=
  step_work hen

/-! ## the array instance: slice reads and slice writes -/

/-- **No lost write.**  In every sequential order (hence, by `linearizable_complete`, after every
complete concurrent run) an element that only session `a` assigns holds what `a`'s own requests, run
alone in `a`'s own order, leave there: `a`'s last value for it, whatever the other sessions did to
the rest of the array in between. -/
theorem no_lost_write (m0 : Mem) (prog : Sid → List (Frame Op)) (sched : List Sid)
    (hfin : ∀ s, ((runSched execOp (init m0 prog) sched).thr s).finished = true)
    (a : Sid) (k j : Nat)
    (honly : ∀ s, s ≠ a → ∀ op, [op] ∈ requests (prog s) → op.assigns (shape m0) k j = false) :
    elem (runSched execOp (init m0 prog) sched).mem k j
      = elem (runOps m0 (requests (prog a))) k j
    ∧ elem (runOps m0 (requests (prog a))) k j
      = ((lastAssigned (shape m0) k j (requests (prog a))).or (elem m0 k j)) := by
  obtain ⟨order, hord, hmem, -⟩ := linearizable_complete execOp m0 prog sched hfin
  constructor
  · rw [hmem, ← hord a]
    refine no_lost_write_seq a k j order m0 m0 rfl rfl fun e he hne op hop => ?_
    apply honly e.1 hne op
    rw [← hord e.1, ← hop]
    exact mem_proj_of_mem he
  · exact runOps_elem m0 _ k j

/-- **A multi-element read never observes part of a multi-element write.**  If elements `[b, b+n)` of
array `k` start out equal and every write request of every session that touches them overwrites the
whole stripe with one value, then every reply to a read of `[b, b+n)`, in every schedule, carries `n`
equal values (and the read is never refused). -/
theorem multi_element_atomic (m0 : Mem) (prog : Sid → List (Frame Op)) (sched : List Sid)
    (k b n : Nat) (hn : 0 < n) (h0 : Uniform k b n m0)
    (hsafe : ∀ s op, [op] ∈ requests (prog s) → op.stripeSafe k b n)
    (s : Sid) (i : Nat) (a : Res)
    (hreq : (requests (prog s))[i]? = some [Op.read k b n])
    (hrep : ((runSched execOp (init m0 prog) sched).thr s).sent.flatten[i]? = some a) :
    ∃ v, a = .data (List.replicate n v) := by
  have := (atomic_invariant execOp m0 prog sched (Uniform k b n) h0 ?_).2 s i a hrep
  · obtain ⟨m, w, hm, hw, rfl⟩ := this
    rw [hreq] at hw
    cases hw
    exact read_uniform hn hm
  · intro s w hw m hm
    exact execOp_uniform hm (fun op hop => hsafe s op (hop ▸ hw))

/-! ## the Logix instance -/

/-- **In the Logix device model every Read/Write Tag [Fragmented] request is at most ONE slice
operation on ONE tag's array** (refused: none; read: one slice read, device untouched; write: one slice
assignment, nothing else changes) — the model-level counterpart of the correspondence check "every
accepted request made exactly one storage access".  It is what makes `execLgx` a legitimate atomic
`exec` for the generic theorems above. -/
theorem lgx_request_is_one_array_op (d : Logix.Dev) (s : Logix.Simple) (hs : isTagRequest s = true) :
    OneArrayOp d (Logix.execSimple d s) := execSimple_one_array_op d s hs

/-! ## sensitivity witnesses: the assumptions are necessary -/

/-- a decidable property of the single-operation requests of a list is checked by running through the list -/
theorem forall_single_of_all {P : Op → Prop} [DecidablePred P] {ws : List (List Op)}
    (h : (ws.all fun w => match w with | [op] => decide (P op) | _ => true) = true) (op : Op) (hop : [op] ∈ ws) :
    P op := by
  simpa using List.all_eq_true.mp h _ hop

/-- session 0 writes `[1,1]` over `[0,0]`, session 1 reads both elements -/
def demoProg : Sid → List (Frame Op)
  | 0 => [[(0, [.write 0 0 [.int 1, .int 1]])]]
  | 1 => [[(0, [.read 0 0 2])]]
  | _ => []

def demoMem : Mem := [[.int 0, .int 0]]

theorem stripeSafe_pair (v : Val) : (Op.write 0 0 [v, v]).stripeSafe 0 0 2 :=
  .inr (.inl ⟨Nat.le_refl _, Nat.le_refl _, v, by simp⟩)

/-- the same programs when a write is carried out element by element (one access per element) -/
def splitProg (prog : Sid → List (Frame Op)) : Sid → List (Frame Op) :=
  fun s => (prog s).map fun f => f.flatMap fun m => (m.2.flatMap splitOp).map fun o => (m.1, [o])

/-- the schedule: 0 parses and performs its first element write; 1 runs to completion; 0 finishes -/
def tornSched : List Sid := [0, 0, 0, 0, 0, 0, 0, 0, 0] ++ [1, 1, 1, 1, 1, 1, 1] ++ [0, 0]

/-- **If the storage access were split into per-element steps the statement is false**: a schedule of
the two demo sessions exists in which the read returns `[1, 0]`, which no sequential order of the
whole requests produces. -/
theorem nonatomic_counterexample :
    let st := runSched execOp (init demoMem (splitProg demoProg)) tornSched
    (st.thr 1).sent = [[.data [.int 1, .int 0]]] ∧
    ¬ ∃ order : List (Sid × List Op),
        (∀ s, proj s order = requests (demoProg s)) ∧
        (st.thr 1).sent.flatten = proj 1 (runSeq execOp demoMem order).2 := by
  intro st
  -- every whole request of the demo keeps the stripe `[0, 2)` of array 0 uniform
  have hsafe : ∀ s op, [op] ∈ requests (demoProg s) → op.stripeSafe 0 0 2 := by
    intro s
    suffices h : ∀ op, [op] ∈ requests (demoProg s) → op ∈ [Op.write 0 0 [.int 1, .int 1], .read 0 0 2] by
      intro op hop
      have := h op hop
      simp only [List.mem_cons, List.not_mem_nil, or_false] at this
      rcases this with rfl | rfl
      · exact stripeSafe_pair _
      · trivial
    match s with
    | 0 | 1 => exact forall_single_of_all (by decide)
    | n + 2 => exact fun _ h => absurd h List.not_mem_nil
  have hsent : (st.thr 1).sent = [[.data [.int 1, .int 0]]] := by decide +kernel
  refine ⟨hsent, ?_⟩
  rintro ⟨order, hord, hrep⟩
  rw [hsent] at hrep
  have h1 : (proj 1 (runSeq execOp demoMem order).2)[0]? = some (.data [.int 1, .int 0]) := by
    rw [← hrep]; rfl
  obtain ⟨pre, post, w, hsplit, hlen, ha⟩ := proj_runSeq_getElem h1
  have hw : w = [Op.read 0 0 2] := by
    have := hord 1
    rw [hsplit, proj_append, proj_cons_same, List.eq_nil_of_length_eq_zero hlen] at this
    exact (List.cons.inj this).1
  subst hw
  -- so every sequential prefix leaves it uniform, and a read of it returns two equal values
  have hu : Uniform 0 0 2 (runSeq execOp demoMem pre).1 := by
    apply runSeq_invariant execOp (Uniform 0 0 2)
    · exact ⟨_, .int 0, rfl, by decide, by intro j _ hj; match j, hj with | 0, _ => rfl | 1, _ => rfl⟩
    · intro e he m hm
      refine execOp_uniform hm fun op hop => hsafe e.1 op ?_
      rw [← hop, ← hord e.1, hsplit]
      exact mem_proj_of_mem (List.mem_append_left _ he)
  obtain ⟨v, hv⟩ := read_uniform (by decide) hu
  rw [← ha] at hv
  cases hv  -- `[1, 0]` is not `[v, v]`

/-- two sessions, one shared parser; the "memory" logs what is executed, the reply echoes it -/
def echoExec (m : List (List Nat)) (w : List Nat) : List (List Nat) × List Nat := (m ++ [w], w)

def echoProg : Sid → List (Frame Nat)
  | 0 => [[(0, [1, 2])]]
  | 1 => [[(0, [3, 4])]]
  | _ => []

/-- 0 enters the parser and feeds `1`; 1 enters the same parser (nothing stops it) and feeds `3`;
0 feeds `2` and takes the result -/
def raceSched : List Sid := [0, 0, 0, 1, 1, 1, 0, 0, 0, 0, 0]

/-- **If a shared parser were used without its lock the statement is false**: session 0 executes, and
is answered for, a request made of session 1's and its own symbols.  With the lock the same schedule
is harmless (thread 1 just waits). -/
theorem unlocked_parser_counterexample :
    ((runSchedWith false echoExec (init [] echoProg) raceSched).thr 0).sent = [[[3, 2]]] ∧
    ((runSchedWith true echoExec (init [] echoProg) raceSched).thr 0).sent = [[[1, 2]]] := by
  constructor <;> decide +kernel

/-! ## non-vacuity -/

/-- three sessions (single requests and a bundle) on two parsers -/
def sampleProg : Sid → List (Frame Op)
  | 0 => [[(0, [.write 0 0 [.int 7, .int 7]])], [(0, [.read 0 0 3])]]
  | 1 => [[(0, [.read 0 0 2]), (1, [.write 0 2 [.int 5]])]]
  | 2 => [[(1, [.write 0 0 [.int 9, .int 9]])]]
  | _ => []

def sampleMem : Mem := [[.int 0, .int 0, .int 0]]

def sampleSched : List Sid :=
  [0, 1, 2, 0, 1, 2, 2, 0, 1, 1, 2, 0, 0, 2, 1, 1, 1, 0, 2, 1, 1, 1, 1, 0, 2, 1, 1, 0, 0, 0, 0, 0, 0, 0, 1]

/-- the sample run completes, with genuinely interleaved accesses (the access order is 0, 2, 1, 1, 0) -/
example :
    let st := runSched execOp (init sampleMem sampleProg) sampleSched
    (∀ s < 4, (st.thr s).finished = true) ∧ st.hist.map (·.1) = [0, 2, 1, 1, 0] ∧
    (st.thr 0).sent = [[.done], [.data [.int 9, .int 9, .int 5]]] ∧
    (st.thr 1).sent = [[.data [.int 9, .int 9], .done]] ∧ st.mem = [[.int 9, .int 9, .int 5]] := by
  decide +kernel

/-- `linearizable_complete`'s hypothesis is satisfiable: in the sample run every session (the three that
send something and all the others) is answered completely -/
example : ∀ s : Nat, ((runSched execOp (init sampleMem sampleProg) sampleSched).thr s).finished = true := by
  intro s
  match s with
  | 0 | 1 | 2 => decide +kernel
  | n + 3 =>
    -- a session that is never scheduled stays as it started: idle, with its (empty) program ahead
    have hlt : ∀ x ∈ sampleSched, x < 3 := by decide +kernel
    rw [runSched_thr_of_not_mem _ _ _ _ (fun hm => absurd (hlt _ hm) (Nat.not_lt.mpr (Nat.le_add_left 3 n)))]
    rfl

/-- `multi_element_atomic`'s hypotheses are satisfiable: stripe `[0,2)` of the sample is only ever
overwritten whole -/
example : Uniform 0 0 2 sampleMem ∧ ∀ s op, [op] ∈ requests (sampleProg s) → op.stripeSafe 0 0 2 := by
  refine ⟨⟨_, .int 0, rfl, by decide, by intro j _ hj; match j, hj with | 0, _ => rfl | 1, _ => rfl⟩, ?_⟩
  intro s
  suffices h : ∀ op, [op] ∈ requests (sampleProg s) → op ∈ [Op.write 0 0 [.int 7, .int 7], .read 0 0 3, .read 0 0 2,
      .write 0 2 [.int 5], .write 0 0 [.int 9, .int 9]] by
    intro op hop
    have := h op hop
    simp only [List.mem_cons, List.not_mem_nil, or_false] at this
    rcases this with rfl | rfl | rfl | rfl | rfl
    · exact stripeSafe_pair _
    · trivial
    · trivial
    · exact .inr (.inr (.inr (by decide)))
    · exact stripeSafe_pair _
  match s with
  | 0 | 1 | 2 => exact forall_single_of_all (by decide)
  | n + 3 => exact fun _ h => absurd h List.not_mem_nil

/-- `no_lost_write`'s hypothesis is satisfiable: only session 1 assigns element 2 of array 0 -/
example : ∀ s, s ≠ 1 → ∀ op, [op] ∈ requests (sampleProg s) → op.assigns (shape sampleMem) 0 2 = false := by
  intro s hs
  match s, hs with
  | 0, _ | 2, _ => exact forall_single_of_all (by decide)
  | n + 3, _ => exact fun _ h => absurd h List.not_mem_nil

/-- the generic theorems apply verbatim to the Logix device model (what the driver replays) -/
example (d : Logix.Dev) (prog : Sid → List (Frame Logix.Simple)) (sched : List Sid) :=
  linearizable execLgx d prog sched

end Cpppo.Concurrent

/-!
## Connected (Forward Open) sessions: the Connection Manager's shared table

`Connection_Manager.forwards` (`server/enip/device.py`) is one dict shared by all session threads, keyed by
`(peer host, peer port, O->T connection ID)`.  `Cpppo.Forwards.step` mirrors Forward Open, Forward Close, the
end of a session, and the routing decision of a Connected request.  The theorems quantify over **every
interleaving of every number of sessions' operations** (`ops : List Op`, any length) and every initial table.
Each operation is one step: the dict insert / the key scan + `del` are taken to be atomic with respect to the
other session threads (GIL; the scan runs on a `list(...)` copy of the keys) - the same named residue as above.
-/
namespace Cpppo.Forwards

/-- **Session isolation for Connected sessions.**  What a session is answered (Forward Open accepted or
refused, every Connected request delivered through its connection / routed by its own path / failing to
parse) over any interleaving with any other sessions' operations is exactly what it is answered when it
runs alone on its own part of the table: no operation of another peer - in particular another session
ending, or a Forward Close with the same connection serial from another peer - can change it. -/
theorem connected_session_isolation (p : Peer) (ops : List Op) (t : Table) :
    outsOf p t ops = (run (restrict p t) (ops.filter (fun op => decide (op.peer = p)))).2 :=
  outsOf_restrict p ops t

/-- the same over the wire, where a request that cannot be parsed ends its session (`enip_srv_tcp` drops the
connection and the session's end purges its connections): still only the session's **own** failures count -/
theorem connected_session_isolation_wire (p : Peer) (ops : List Op) (t : Table) :
    outsOfWire p t ops = (runWire (restrict p t) (ops.filter (fun op => decide (op.peer = p)))).2 :=
  outsOfWire_restrict p ops t

/-- one-step form: an operation of another peer changes no lookup of this peer's connections
(peers differ when host **or** port differ) -/
theorem other_peer_untouched (t : Table) (op : Op) (k : Key) (h : op.peer ≠ k.peer) :
    lookup (step t op).1 k = lookup t k := by
  obtain ⟨p, c⟩ := k
  have := step_restrict_other p t op h
  rw [← lookup_restrict p (step t op).1 c, this, lookup_restrict]

/-- the end of a session purges every one of its connections … -/
theorem fin_purges_own (t : Table) (p : Peer) (c : Nat) : lookup (step t (.fin p)).1 ⟨p, c⟩ = none :=
  lookup_filter_of_drop _ t _ (by intro e; simp)

/-- … a Forward Close purges exactly the peer's connections carrying that serial, and keeps its others -/
theorem fclose_keeps_other_serial (t : Table) (p : Peer) (s c : Nat) (e : Entry)
    (h : lookup t ⟨p, c⟩ = some e) (hs : e.serial ≠ s) : lookup (step t (.fclose p s)).1 ⟨p, c⟩ = some e :=
  lookup_filter_of_some h (by simp [hs])

theorem fclose_purges_serial (t : Table) (p : Peer) (s c : Nat) (e : Entry)
    (h : lookup (step t (.fclose p s)).1 ⟨p, c⟩ = some e) : e.serial ≠ s := by
  simpa using lookup_filter_some h

/-- a Connected request through an open connection to the PCCC Object is delivered there, whatever other
peers did in between: after `p`'s accepted Forward Open, as long as `p` itself neither closes nor ends -/
theorem open_connection_survives (p : Peer) (cid serial : Nat) (tgt : Target) (t : Table) (others : List Op)
    (hfree : lookup t ⟨p, cid⟩ = none) (hoth : ∀ op ∈ others, op.peer ≠ p) :
    lookup (run (step t (.fopen p cid serial tgt)).1 others).1 ⟨p, cid⟩ = some ⟨serial, tgt⟩ := by
  -- the others' operations leave `p`'s part of the table alone
  rw [← lookup_restrict, run_restrict_other p others _ hoth, lookup_restrict]
  simp [step, hfree, lookup_append, lookup]

/-- **The two models together: session threads sharing the Forward Open table.**  Take the thread machine of the first
part of this file (one thread per session, shared parsers under locks, ONE atomic access per request, any schedule)
with the Forward Open table as its shared memory and `run` (a request = a list of table operations) as the atomic
access.  If every session `s` is a distinct peer `peerOf s` and sends only operations of its own peer, then in every
schedule that answers everybody, every session has been sent exactly the replies of its own requests executed alone,
one after the other, on its own part of the initial table - whatever the other sessions did and however the steps
interleaved. -/
theorem threads_connected_isolation (peerOf : Concurrent.Sid → Peer) (hinj : ∀ a b, peerOf a = peerOf b → a = b)
    (t0 : Table) (prog : Concurrent.Sid → List (Concurrent.Frame Op)) (sched : List Concurrent.Sid)
    (hown : ∀ s, ∀ w ∈ Concurrent.requests (prog s), ∀ op ∈ w, op.peer = peerOf s)
    (hfin : ∀ s, ((Concurrent.runSched run (Concurrent.init t0 prog) sched).thr s).finished = true) (s : Concurrent.Sid) :
    ((Concurrent.runSched run (Concurrent.init t0 prog) sched).thr s).sent.flatten
      = seqReplies (restrict (peerOf s) t0) (Concurrent.requests (prog s)) := by
  obtain ⟨order, hproj, _, hsent, _, _⟩ := Concurrent.linearizable_complete run t0 prog sched hfin
  rw [hsent s, proj_runSeq_restrict peerOf hinj s order t0, hproj s]
  intro e he op hop
  have := Concurrent.mem_proj_of_mem he
  rw [hproj e.1] at this
  exact hown e.1 e.2 this op hop

/-- two session threads from one host (ports 1001 and 1000) -/
def threadsProg : Concurrent.Sid → List (Concurrent.Frame Op)
  | 0 => [[(0, [.fopen ⟨1, 1001⟩ 5 7 .pccc, .send ⟨1, 1001⟩ 5 .df1])], [(0, [.send ⟨1, 1001⟩ 5 .df1])]]
  | 1 => [[(0, [.fclose ⟨1, 1000⟩ 7])], [(0, [.fin ⟨1, 1000⟩])]]
  | _ => []

def threadsSched : List Concurrent.Sid := (List.range 80).map (· % 2)

/-- the hypotheses of `threads_connected_isolation` are satisfiable on a genuinely interleaved run: both sessions are
answered completely, session 1's Forward Close (same serial) and end fall between session 0's open and its last
request, and session 0 is served through its connection both times -/
example :
    let st := Concurrent.runSched run (Concurrent.init [] threadsProg) threadsSched
    (∀ s < 3, (st.thr s).finished = true) ∧ st.hist.map (·.1) = [0, 1, 0, 1] ∧
    (st.thr 0).sent = [[[.opened, .viaPccc]], [[.viaPccc]]] ∧ (st.thr 1).sent = [[[.closed]], [[.ended]]] := by
  decide +kernel

/-- **Refinement to the simplest specification.**  Over every operation sequence from the empty table, the
insertion-ordered list the model keeps (as the code keeps a dict) behaves exactly like a partial map
`(peer, connection ID) → Option (serial, target)` (`Spec.step`: open = insert when absent, else refuse; close =
forget this peer's entries with that serial; end = forget this peer's entries; Connected request = look up): every
answer is the abstract map's answer, and every lookup in the final table is the abstract map's value. -/
theorem table_refines_map (ops : List Op) :
    (∀ k, lookup (run [] ops).1 k = (Spec.run (fun _ => none) ops).1 k)
    ∧ (run [] ops).2 = (Spec.run (fun _ => none) ops).2 :=
  run_refines ops [] List.nodup_nil

/-- decision logic stated outright: a DF1 command (no path of its own) is delivered to the PCCC Object **iff** this
peer holds an open connection with that ID leading there; a CIP request is answered by the router unless the
connection leads to the PCCC Object -/
theorem df1_served_iff (t : Table) (p : Peer) (c : Nat) :
    (step t (.send p c .df1)).2 = .viaPccc ↔ ∃ s, lookup t ⟨p, c⟩ = some ⟨s, .pccc⟩ := by
  simp only [step]
  cases h : lookup t ⟨p, c⟩ with
  | none => simp [respond]
  | some e =>
    obtain ⟨s, tg⟩ := e
    cases tg <;> simp [respond]

theorem cip_served_iff (t : Table) (p : Peer) (c : Nat) :
    (step t (.send p c .cip)).2 = .viaRouter ↔ ¬ ∃ s, lookup t ⟨p, c⟩ = some ⟨s, .pccc⟩ := by
  simp only [step]
  cases h : lookup t ⟨p, c⟩ with
  | none => simp [respond]
  | some e =>
    obtain ⟨s, tg⟩ := e
    cases tg <;> simp [respond]

/-- the table is a dict: keys stay unique over every operation sequence -/
theorem table_keys_unique (ops : List Op) : KeysNodup (run [] ops).1 :=
  run_keysNodup ops [] List.nodup_nil

/-! sensitivity / non-vacuity -/

/-- purging by host only (ignoring the port) breaks isolation: session B (10.0.0.1:1001) opened a connection
to the PCCC Object, session A (same host, port 1000) ends, B's DF1 request fails - alone, B is served -/
theorem hostOnly_counterexample :
    let A : Peer := ⟨1, 1000⟩
    let B : Peer := ⟨1, 1001⟩
    let ops := [Op.fopen B 5 7 .pccc, .send B 5 .df1, .fin A, .send B 5 .df1]
    outsOfHostOnly B [] ops = [.opened, .viaPccc, .failed]
    ∧ outsOf B [] ops = [.opened, .viaPccc, .viaPccc] := by decide +kernel

example : -- hypotheses of `open_connection_survives` / `fclose_keeps_other_serial` are satisfiable, non-trivially
    let A : Peer := ⟨1, 1000⟩
    let B : Peer := ⟨1, 1001⟩
    let C : Peer := ⟨2, 1001⟩
    let ops := [Op.fopen A 5 7 .router, .fopen B 5 7 .pccc, .fopen B 6 8 .pccc, .fopen B 5 9 .router,
                .fclose A 7, .fclose C 7, .fclose B 8, .send B 5 .df1, .send B 6 .df1, .send A 5 .cip, .fin C]
    (run [] ops).2 = [.opened, .opened, .opened, .refused, .closed, .closed, .closed, .viaPccc, .failed, .viaRouter, .ended]
    ∧ (run [] ops).1 = [(⟨B, 5⟩, ⟨7, .pccc⟩)] := by decide +kernel

end Cpppo.Forwards
