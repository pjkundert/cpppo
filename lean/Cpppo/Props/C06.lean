import Cpppo.Proofs.Session
import Cpppo.Props.C07
/-!
# C06 — Exactly one matching reply per request, delivered in request order

Statement (properties.jsonl): on a session every complete well-formed request frame is answered by exactly one
reply frame, replies are sent in the order the requests were received even when many requests are written before
any reply is read, each reply carries the request's sender context and session handle and, for a supported
service, the request's service code with the reply bit 0x80 inside the same SendRRData framing (null address
item + one data item); an unsupported or unroutable request is answered by one frame with a non-zero
encapsulation status.  Register Session returns a non-zero handle; Unregister Session returns nothing and ends
the session.

The theorems are about `Cpppo.Session.serve` (the `enip_srv_tcp` loop) and `process` (`logix.process` /
`UCMM.request` / `Connection_Manager.request`, with `Cpppo.Logix.exec` as the tag-serving core), for *every* device
state, route personality, random stream, list of frames (any length, any mixture of kinds, failing ones
included), every sender context, session handle, status and options value.  "Well-formed" is `Frame.parsable`:
the frame is accepted by the simulator's command grammar (everything but a Register shorter than 4 bytes and an
unknown encapsulation command); what happens to the others is
`unparsable_not_answered` (the connection is dropped without a reply: documented behaviour of `enip_srv`).

The code before the `fix:` commit is `processOld`: `old_echoes_request` is the witness that it violated the
service-code clause.
-/
namespace Cpppo.Session
open Cpppo Cpppo.Logix

/-! ## exactly one reply per request, in request order -/

/-- **One reply each, in order**, whatever the input: serving a list of frames consumes a prefix of it; the replies
sent are, position by position, one for each frame of that prefix that is well-formed and not Unregister Session, and
each echoes its request (`Echoes`: command, sender context, options, session handle -- for Register Session a non-zero
new handle); nothing is ever sent for a frame outside the prefix; input is left unconsumed only after the session
ended; an unparsable frame is the last one consumed, and it is exactly then that the loop ends by an exception. -/
theorem replies_general (cfg : Cfg) (s : Srv) (fs : List Frame) :
    (serve cfg s fs).consumed ≤ fs.length ∧
    Matched Echoes ((fs.take (serve cfg s fs).consumed).filter fun f => f.parsable && !f.silent cfg)
      (serve cfg s fs).replies ∧
    ((serve cfg s fs).end = .open → (serve cfg s fs).consumed = fs.length) ∧
    ((serve cfg s fs).end = .aborted ↔
      ∃ f, fs[(serve cfg s fs).consumed - 1]? = some f ∧ 0 < (serve cfg s fs).consumed ∧ f.parsable = false) := by
  unfold serve
  induction fs generalizing s with
  | nil => exact ⟨Nat.le_refl _, Matched.nil, fun _ => rfl, by simp [serveWith]⟩
  | cons f fs ih =>
    cases hpf : f.parsable with
    | false => simp [serveWith, process_unparsable true cfg s f hpf, hpf, Matched.nil]
    | true =>
      cases hu : f.silent cfg with
      | true => simp [serveWith, process_unregister true cfg s f hu, hpf, hu, Matched.nil]
      | false =>
        obtain ⟨s', r, hpr, hech⟩ := process_answers true cfg s f hpf hu
        rw [serveWith, hpr]
        dsimp only
        split
        · obtain ⟨h1, h2, h3, h4⟩ := ih s'
          refine ⟨Nat.succ_le_succ h1, ?_, fun ho => by simp [h3 ho], ?_⟩
          · simp only [List.take_succ_cons, List.filter_cons, hpf, hu, Bool.not_false, Bool.and_self, ite_true]
            exact Matched.cons hech h2
          · rw [h4]
            cases (serveWith true cfg s' fs).consumed <;> simp [hpf]
        · simp [hpf, hu, Matched.cons hech Matched.nil]

/-- When every frame is well-formed the loop does not abort. -/
theorem one_reply_each (cfg : Cfg) (s : Srv) (fs : List Frame) (hp : ∀ f ∈ fs, f.parsable = true) :
    (serve cfg s fs).consumed ≤ fs.length ∧
    Matched Echoes (expected cfg (fs.take (serve cfg s fs).consumed)) (serve cfg s fs).replies ∧
    ((serve cfg s fs).end = .open → (serve cfg s fs).consumed = fs.length) ∧
    (serve cfg s fs).end ≠ .aborted := by
  obtain ⟨h1, h2, h3, h4⟩ := replies_general cfg s fs
  refine ⟨h1, ?_, h3, fun ha => ?_⟩
  · rw [expected, List.filter_congr fun f hf => ?_]
    · exact h2
    · simp [hp f (List.mem_of_mem_take hf)]
  · obtain ⟨f, hf, _, hpf⟩ := h4.mp ha
    rw [hp f (List.mem_of_getElem? hf)] at hpf
    cases hpf

/-- the number of replies is the number of consumed frames that are not Unregister Session -/
theorem reply_count (cfg : Cfg) (s : Srv) (fs : List Frame) (hp : ∀ f ∈ fs, f.parsable = true) :
    (serve cfg s fs).replies.length = (expected cfg (fs.take (serve cfg s fs).consumed)).length :=
  ((one_reply_each cfg s fs hp).2.1.length_eq).symm

/-- **Request order**: the k-th reply answers the k-th answerable request -- it carries that request's sender
context, whatever the contexts are (equal ones included). -/
theorem in_request_order (cfg : Cfg) (s : Srv) (fs : List Frame) (hp : ∀ f ∈ fs, f.parsable = true)
    (k : Nat) (f : Frame) (r : ReplyFrame)
    (hf : (expected cfg (fs.take (serve cfg s fs).consumed))[k]? = some f)
    (hr : (serve cfg s fs).replies[k]? = some r) :
    r.context = f.hdr.context ∧ r.command = f.command :=
  let e := (one_reply_each cfg s fs hp).2.1.get k f r hf hr
  ⟨e.context, e.command⟩

/-- **The session stops only when told to.**  Every reply but the last has encapsulation status 0, a session
still open at the end of the input has sent only status 0, and an Unregister Session is the last frame consumed:
so the consumed prefix ends exactly at the first Unregister or the first reply with a non-zero status. -/
theorem stops_only_when_told (cfg : Cfg) (s : Srv) (fs : List Frame) :
    (∀ r ∈ (serve cfg s fs).replies.dropLast, r.status = 0) ∧
    ((serve cfg s fs).end = .open → ∀ r ∈ (serve cfg s fs).replies, r.status = 0) ∧
    (∀ k f, k + 1 < (serve cfg s fs).consumed → fs[k]? = some f → f.silent cfg = false) := by
  unfold serve
  fun_induction serveWith true cfg s fs with
  | case2 s g fs s' r hpr h0 run ih =>   -- status 0: the loop goes on
    obtain ⟨h1, h2, h3⟩ := ih
    refine ⟨?_, fun ho => List.forall_mem_cons.mpr ⟨h0, h2 ho⟩, fun k f hk hf => ?_⟩
    · cases hrs : run.replies with
      | nil => simp
      | cons y ys =>
        rw [List.dropLast_cons_cons, ← hrs]
        exact List.forall_mem_cons.mpr ⟨h0, h1⟩
    · cases k with
      | zero =>
        cases hf
        cases hu : g.silent cfg with
        | false => rfl
        | true => rw [process_unregister true cfg s g hu] at hpr; cases hpr
      | succ k => exact h3 k f (Nat.lt_of_succ_lt_succ hk) hf
  | _ => simp

/-- **Exactly one**: per frame, `process` yields one reply, or none (`Outcome` holds at most one frame);
a well-formed frame other than Unregister gets one. -/
theorem exactly_one (cfg : Cfg) (s : Srv) (f : Frame) (hp : f.parsable = true) :
    (f.silent cfg = true → (process cfg s f).2 = .close) ∧
    (f.silent cfg = false → ∃ r, (process cfg s f).2 = .reply r) :=
  ⟨fun hu => by rw [process, process_unregister true cfg s f hu],
   fun hu => let ⟨_, r, h, _⟩ := process_answers true cfg s f hp hu; ⟨r, congrArg Prod.snd h⟩⟩

/-! ## what a reply carries -/

/-- **Echo.**  A reply carries its request's command, sender context and options, and its session handle --
except the reply to Register Session, whose handle, when the registration succeeds, is not zero. -/
theorem reply_echo (cfg : Cfg) (s : Srv) (f : Frame) (r : ReplyFrame) (h : (process cfg s f).2 = .reply r) :
    r.command = f.command ∧ r.context = f.hdr.context ∧ r.options = f.hdr.options ∧
    (f.isRegister = false → r.session = f.hdr.session) ∧
    (f.isRegister = true → r.status = 0 → r.session ≠ 0) := by
  unfold process at h
  cases hp : f.parsable with
  | false => rw [process_unparsable true cfg s f hp] at h; cases h
  | true =>
    cases hu : f.silent cfg with
    | true => rw [process_unregister true cfg s f hu] at h; cases h
    | false =>
      obtain ⟨s', r', hpr, e⟩ := process_answers true cfg s f hp hu
      rw [hpr] at h
      cases h
      exact ⟨e.command, e.context, e.options, e.session, e.handle⟩

/-- **Register Session** succeeds as soon as the random source can deliver a non-zero value: the reply has
status 0, the request's protocol version and options, and a non-zero handle, which the server records. -/
theorem register_handle (cfg : Cfg) (s : Srv) (f : Frame) (proto opts : Nat) (extra : Bytes)
    (hb : f.body = .register proto opts extra) (hf : fits cfg f = true) (x : Nat) (hx : x ∈ s.rand) (h0 : x ≠ 0) :
    ∃ h rest, h ≠ 0 ∧ process cfg s f =
      ({ s with rand := rest, session := some h },
       .reply { echo f 0 (Bytes.le 2 proto ++ Bytes.le 2 opts) with session := h }) := by
  obtain ⟨h, rest, hp⟩ := pickNonzero_some_of_mem hx h0
  refine ⟨h, rest, (pickNonzero_some hp).1, ?_⟩
  simp [process, processWith_fits _ _ _ _ hf, processBody, hb, hp]

/-- **Unregister Session** returns nothing and ends the session, whatever follows it in the input. -/
theorem unregister_silent (cfg : Cfg) (s : Srv) (f : Frame) (rest : List Frame) (hu : f.silent cfg = true) :
    serve cfg s (f :: rest) = ⟨{ s with session := none }, [], 1, .closed⟩ := by
  simp [serve, serveWith, process_unregister true cfg s f hu]

/-- **One frame on the wire.**  The bytes sent for a reply are a 24-byte header whose length field is the length
of the payload that follows, whose bytes 12..19 are the sender context: exactly one encapsulation frame. -/
theorem reply_is_one_frame (r : ReplyFrame) (hc : r.context.length = 8) :
    r.encode.length = 24 + r.payload.length ∧
    (r.encode.drop 2).take 2 = Bytes.le 2 r.payload.length ∧
    (r.encode.drop 12).take 8 = r.context ∧
    r.encode.drop 24 = r.payload := by
  -- octet by octet: 12 before the context, 4 after it
  simp only [ReplyFrame.encode, Bytes.le, List.append_assoc, List.cons_append, List.nil_append]
  refine ⟨?_, rfl, List.take_left' hc, ?_⟩
  · simp only [List.length_cons, List.length_append, hc]
    omega
  · simp only [List.drop_succ_cons]
    rw [List.drop_append, List.drop_of_length_le (by omega), hc]
    rfl

/-- the reply to a request with an 8-octet sender context has one -/
theorem reply_context_length (cfg : Cfg) (s : Srv) (f : Frame) (r : ReplyFrame)
    (h : (process cfg s f).2 = .reply r) (hc : f.hdr.context.length = 8) : r.context.length = 8 := by
  rw [(reply_echo cfg s f r h).2.1]; exact hc

/-! ## supported services: reply bit inside the same framing -/

/-- the request can be delivered: acceptable route path, and the Unconnected Send (if any) is addressed to a
Connection Manager.  (The request's own path need not designate anything that exists: an unknown Tag or Object is
answered by the Message Router with a CIP failure status inside a normal reply -- /repo e94e54f.) -/
def routable (cfg : Cfg) (w : Wrap) : Bool :=
  routeAccepts cfg.route w && usendToCM w

/-- **Service bit.**  A routable request whose reply can be produced is answered by one frame with the request's
own status field (0), whose payload is the request's interface handle and timeout followed by the item list
[null address, unconnected data], and the data item starts with the request's service code with bit 0x80 set. -/
theorem service_bit (cfg : Cfg) (s : Srv) (f : Frame) (u : Bool) (i t : Nat) (w : Wrap) (r : Req) (raw : Bytes)
    (d' : Dev) (bs : Bytes) (hb : f.body = .send u i t w (.req r raw))
    (hf : fits cfg f = true) (hl : routedVia cfg w = none) (hr : routable cfg w = true)
    (he : execReq s.refusing s.dev r = (d', some bs)) :
    process cfg s f = ({ s with dev := d' },
      .reply (echo f f.hdr.status (Bytes.le 4 i ++ Bytes.le 2 t ++ cpfEncode [(0, []), (Generated.cpfUnconnected, bs)])))
    ∧ bs.head? = some (reqService r ||| 0x80) := by
  simp only [routable, Bool.and_eq_true] at hr
  refine ⟨?_, execReq_head he⟩
  simp [process, processWith_fits _ _ _ _ hf, processBody, hb, hl, hr, cmServe, cmRequest, he, sendFraming]

/-- **Unsupported or unroutable.**  A SendRRData request that cannot be delivered (refused route path, Unconnected
Send to something that is not a Connection Manager), whose service no Object parses, or
whose reply cannot be produced, is answered by exactly one frame: no payload, non-zero status, same command,
context, session handle and options -- and the session ends there. -/
theorem unsupported_nonzero (cfg : Cfg) (s : Srv) (f : Frame) (u : Bool) (i t : Nat) (w : Wrap) (c : Cip)
    (rest : List Frame) (hb : f.body = .send u i t w c) (hf : fits cfg f = true) (hl : routedVia cfg w = none)
    (h : routable cfg w = false ∨ (∃ code p raw, c = .unknown code p raw)
          ∨ (∃ r raw, c = .req r raw ∧ (execReq s.refusing s.dev r).2 = none)) :
    (process cfg s f).2 = .reply (echo f (failStatus f.hdr.status) []) ∧
    failStatus f.hdr.status ≠ 0 ∧
    (serve cfg s (f :: rest)).replies = [echo f (failStatus f.hdr.status) []] ∧
    (serve cfg s (f :: rest)).consumed = 1 ∧ (serve cfg s (f :: rest)).end = .closed := by
  have hne := failStatus_ne_zero f.hdr.status
  have key : (process cfg s f).2 = .reply (echo f (failStatus f.hdr.status) []) := by
    simp only [process, processWith_fits _ _ _ _ hf, processBody, hb, hl, Bool.not_true, Bool.false_and, Bool.false_eq_true, ite_false]
    by_cases h1 : routeAccepts cfg.route w = true
    · by_cases h2 : usendToCM w = true
      · simp only [h1, h2, Bool.not_true, Bool.false_eq_true, ite_false]
        obtain ⟨s', hn⟩ := cmServe_none (h.resolve_left (by simp [routable, h1, h2]))
        rw [hn]
        rfl
      · simp [h1, h2, refuse]
    · simp [h1, refuse]
  have hs := serveWith_refused (s' := (process cfg s f).1) rest (Prod.ext rfl key) hne
  exact ⟨key, hne, congrArg Run.replies hs, congrArg Run.consumed hs, congrArg Run.end hs⟩

/-- **Failing tag requests are still answered in full.**  On a well-formed device (`Dev.WF`, the invariant of C05)
a routable Read/Write Tag [Fragmented] request -- valid, or failing with any CIP status: unknown Tag or Object
(0x05), unknown attribute, range, type mismatch -- is always answered by the full frame of `service_bit` (its reply can always be produced), and the
device stays well-formed, so the same holds for every later request of the session. -/
theorem tag_request_answered (cfg : Cfg) (s : Srv) (hwf : s.dev.WF) (f : Frame) (u : Bool) (i t : Nat) (w : Wrap)
    (sreq : Simple) (raw : Bytes) (hs : isTagService sreq = true)
    (hb : f.body = .send u i t w (.req (.simple sreq) raw)) (hf : fits cfg f = true)
    (hl : routedVia cfg w = none) (hr : routable cfg w = true) :
    ∃ bs, (process cfg s f).2 = .reply (echo f f.hdr.status (sendFraming i t bs))
      ∧ bs.head? = some (simpleService sreq ||| 0x80) ∧ (process cfg s f).1.dev.WF := by
  obtain ⟨hwf', bs0, hbs⟩ := execSimple_preserves_wf_tag s.dev hwf sreq (by cases sreq <;> simp_all [isTagService])
  -- with or without refusing Attributes: a reply is produced, and the device is the one `exec` leaves or unchanged
  obtain ⟨d', bs, he, hwfd⟩ : ∃ d' bs, execReq s.refusing s.dev (.simple sreq) = (d', some bs) ∧ d'.WF := by
    rcases execReq_eq s.refusing s.dev (.simple sreq) with e | e
    · exact ⟨_, bs0, e.trans (by simp only [exec, hbs]), hwf'⟩
    · exact ⟨_, _, e, hwf⟩
  obtain ⟨h1, h2⟩ := service_bit cfg s f u i t w (.simple sreq) raw d' bs hb hf hl hr he
  exact ⟨bs, congrArg Prod.snd h1, h2, h1 ▸ hwfd⟩

/-- **An Attribute that refuses the store.**  A Write Tag [Fragmented] that is valid in every respect, to an Attribute
whose data store raises on assignment, is answered in full: service|0x80, CIP status 0xFF with extended status
0x2105, encapsulation status as in the request -- and the device is unchanged. -/
theorem refused_store_answered (cfg : Cfg) (s : Srv) (f : Frame) (u : Bool) (i t : Nat) (w : Wrap) (r : Req)
    (raw : Bytes) (addr : Nat × Nat × Nat) (d' : Dev) (bs : Bytes)
    (hb : f.body = .send u i t w (.req r raw)) (hf : fits cfg f = true)
    (hl : routedVia cfg w = none) (hr : routable cfg w = true)
    (ht : writeTarget s.dev r = some addr) (hm : s.refusing.contains addr = true)
    (he : exec s.dev r = (d', some bs)) (h0 : bs.getD 2 1 = 0) :
    process cfg s f = (s, .reply (echo f f.hdr.status
        (sendFraming i t ([reqService r + 128, 0, 255, 1, 0x05, 0x21])))) := by
  have hx : execReq s.refusing s.dev r = (s.dev, some [reqService r + 128, 0, 255, 1, 0x05, 0x21]) := by
    simp only [execReq, ht, hm, he, h0, if_true]
    rfl
  exact (service_bit cfg s f u i t w r raw s.dev _ hb hf hl hr hx).1

/-! ## the Connection Manager's own services, and the request size limit -/

/-- **[Large] Forward Open and Forward Close are always answered with their own service code.**  Whatever the
parameters, whatever the Connection Manager already knows (a refused Forward Open is a reply with CIP status
0x08), a routable request gets one full frame whose data item starts with the request's service code with bit 0x80
set: 0x54 -> 0xd4, 0x5b -> 0xdb, 0x4e -> 0xce. -/
theorem cm_request_answered (cfg : Cfg) (s : Srv) (f : Frame) (u : Bool) (i t : Nat) (w : Wrap) (r : CmReq)
    (raw : Bytes) (hb : f.body = .send u i t w (.cm r raw)) (hf : fits cfg f = true)
    (hl : routedVia cfg w = none) (hr : routable cfg w = true) :
    ∃ bs, (process cfg s f).2 = .reply (echo f f.hdr.status (sendFraming i t bs))
      ∧ bs.head? = some (Cip.service (.cm r raw) ||| 0x80) := by
  simp only [routable, Bool.and_eq_true] at hr
  refine ⟨(execCm s r).2, ?_, execCm_head s r raw⟩
  simp [process, processWith_fits _ _ _ _ hf, processBody, hb, hl, hr, cmServe]

/-- **Over the size limit.**  A well-formed frame whose payload exceeds the configured limit is answered by exactly
one header-only frame with the non-zero status 0x65, and the session ends; a frame of *exactly* the permitted size
is within the limit (`fits`), and every theorem above applies to it. -/
theorem oversize_refused (cfg : Cfg) (s : Srv) (f : Frame) (rest : List Frame) (hp : f.parsable = true)
    (hf : fits cfg f = false) :
    process cfg s f = (s, .reply (echo f sizeFailStatus [])) ∧ sizeFailStatus ≠ 0 ∧
    serve cfg s (f :: rest) = ⟨s, [echo f sizeFailStatus []], 1, .closed⟩ := by
  have h1 := process_oversize true cfg s f hp hf
  exact ⟨h1, sizeFailStatus_ne_zero, serveWith_refused rest h1 sizeFailStatus_ne_zero⟩

theorem fits_iff (cfg : Cfg) (f : Frame) :
    fits cfg f = true ↔ ∀ n, cfg.size = some n → f.hdr.length ≤ n := by
  unfold fits
  cases cfg.size <;> simp

/-! ## requests forwarded through the routing table -/

/-- the forwarding UCMM has, or can get, a registered connection to the route's device -/
def connAvailable (s : Srv) : Prop := s.routeConn = true ∨ ∃ x ∈ s.rand, x ≠ 0

/-- **Routed service bit.**  A request whose route path starts with a routing-table entry is forwarded; when the
connection to the route's device is there (or can be made) and that device accepts the rest of the route and can
produce the reply, the originator gets one frame, status 0, [null address, unconnected data], the data item
starting with the request's service code with bit 0x80 set -- the reply to *this* request, computed from the
current device state, whatever happened to earlier routed requests. -/
theorem routed_service_bit (cfg : Cfg) (s : Srv) (f : Frame) (u : Bool) (i t : Nat) (w inner : Wrap) (r : Req)
    (raw : Bytes) (d' : Dev) (bs : Bytes) (hb : f.body = .send u i t w (.req r raw)) (hf : fits cfg f = true)
    (hv : routedVia cfg w = some inner) (hc : connAvailable s) (hr : routable cfg inner = true)
    (he : execReq s.refusing s.dev r = (d', some bs)) :
    (process cfg s f).2 = .reply (echo f 0 (sendFraming i t bs)) ∧ bs.head? = some (reqService r ||| 0x80)
    ∧ (process cfg s f).1.dev = d' ∧ (process cfg s f).1.routeConn = true := by
  simp only [routable, Bool.and_eq_true] at hr
  refine ⟨?_, execReq_head he, ?_⟩
  all_goals
    simp only [process, processWith_fits _ _ _ _ hf, processBody, hb, hv]
    by_cases hcn : s.routeConn = true
    · simp [hcn, hr, cmServe, cmRequest, he]
    · obtain ⟨x, hxm, hx0⟩ := hc.resolve_left hcn
      obtain ⟨hd, rest, hp⟩ := pickNonzero_some_of_mem hxm hx0
      simp [hcn, hp, hr, cmServe, cmRequest, he]

/-- **A routed request that fails** -- no connection to the route's device can be made, that device refuses the
rest of the route or the send path, no Object parses the service, or the reply cannot be produced -- is answered
by exactly one header-only frame with the non-zero status 0x65, and leaves *no* connection behind: the next routed
request starts from a fresh one. -/
theorem routed_failure_nonzero (cfg : Cfg) (s : Srv) (f : Frame) (u : Bool) (i t : Nat) (w inner : Wrap) (c : Cip)
    (hb : f.body = .send u i t w c) (hf : fits cfg f = true) (hv : routedVia cfg w = some inner)
    (h : ¬ connAvailable s ∨ routable cfg inner = false ∨ (∃ code p raw, c = .unknown code p raw)
          ∨ (∃ r raw, c = .req r raw ∧ (execReq s.refusing s.dev r).2 = none)) :
    (process cfg s f).2 = .reply (echo f routeFailStatus []) ∧ routeFailStatus ≠ 0 ∧
    (process cfg s f).1.routeConn = false := by
  suffices key : (process cfg s f).2 = .reply (echo f routeFailStatus []) ∧ (process cfg s f).1.routeConn = false from
    ⟨key.1, by decide, key.2⟩
  simp only [process, processWith_fits _ _ _ _ hf, processBody, hb, hv]
  split
  · simp
  · next s1 hs1 =>
    -- `s1`: `s`, possibly with a handle drawn
    have e : s1.refusing = s.refusing ∧ s1.dev = s.dev ∧ connAvailable s := by
      split at hs1
      · next hcn =>
        cases hs1
        exact ⟨rfl, rfl, Or.inl hcn⟩
      · split at hs1
        · cases hs1
        · next hd rst hp =>
          cases hs1
          exact ⟨rfl, rfl, Or.inr ⟨hd, (pickNonzero_some hp).2, (pickNonzero_some hp).1⟩⟩
    cases h1 : routeAccepts cfg.route inner with
    | false => simp
    | true =>
      cases h2 : usendToCM inner with
      | false => simp
      | true =>
        obtain ⟨s2, hn⟩ : ∃ s2, cmServe s1 c = (s2, none) := by
          refine cmServe_none ?_
          rw [e.1, e.2.1]
          exact (h.resolve_left (not_not_intro e.2.2)).resolve_left (by simp [routable, h1, h2])
        simp [hn]

/-- connections served one after the other: each is `serve` from the state the previous one left, so every theorem
above (they hold for every state) applies to each connection of a sequence -/
theorem serveSessions_cons (cfg : Cfg) (s : Srv) (fs : List Frame) (rest : List (List Frame)) :
    serveSessions cfg s (fs :: rest) =
      serve cfg s fs :: serveSessions cfg
        (if (serve cfg s fs).end == .closed then (serve cfg s fs).srv else { (serve cfg s fs).srv with forwards := [] })
        rest := rfl

/-- a frame whose item list is not [null address, unconnected data] is refused in the same way -/
theorem bad_items_refused (cfg : Cfg) (s : Srv) (f : Frame) (u : Bool) (i t : Nat) (items : List (Nat × Bytes))
    (hb : f.body = .sendItems u i t items) (hf : fits cfg f = true) :
    process cfg s f = (s, .reply (echo f (failStatus f.hdr.status) [])) := by
  simp [process, processWith_fits _ _ _ _ hf, processBody, hb, refuse]

/-- frames outside the grammar (short Register, unknown command) are not answered at all:
`logix.process` raises and `enip_srv_tcp` drops the connection -/
theorem unparsable_not_answered (cfg : Cfg) (s : Srv) (f : Frame) (rest : List Frame) (h : f.parsable = false) :
    serve cfg s (f :: rest) = ⟨s, [], 1, .aborted⟩ := by
  simp [serve, serveWith, process_unparsable true cfg s f h]

/-! ## pipelining -/

/-- **Pipelining is irrelevant.**  Delivering the requests in any batches -- one at a time (write, read the reply,
write the next), a few at a time, or all before any reply is read -- gives the same replies in the same order,
the same number of frames consumed, the same final state and the same way of ending. -/
theorem pipelining_irrelevant (cfg : Cfg) (s : Srv) (batches : List (List Frame)) :
    serveBatches cfg s batches = serve cfg s batches.flatten := by
  induction batches generalizing s with
  | nil => rfl
  | cons b bs ih =>
    simp only [serveBatches, List.flatten_cons, serve, serveWith_append, ih]
    cases (serveWith true cfg s b).end <;> rfl

/-- in particular: strictly one request at a time -/
theorem one_at_a_time (cfg : Cfg) (s : Srv) (fs : List Frame) :
    serveBatches cfg s (fs.map fun f => [f]) = serve cfg s fs := by
  rw [pipelining_irrelevant, ← List.flatMap_def, List.flatMap_singleton']

/-! ## the defect that was repaired, on the model of the old code -/

def demoDev : Dev :=
  { objs := [{ cls := 2, ins := 1, attrs := [(1, { ty := .int, scalar := false, vals := [.int 7, .int 8, .int 9] })] }],
    symbols := [("a", (2, 1, 1))] }

def demoSrv : Srv := { dev := demoDev, rand := [0, 77] }

/-- Read Tag `A`, 2 elements -/
def readA : Cip := .req (.simple (.readTag [.symbolic "A"] 2)) [0x4c, 0x02, 0x91, 0x01, 0x41, 0x00, 0x02, 0x00]

/-- the witness: that request in an Unconnected Send whose send path is @2/1 (the Message Router) -/
def witness : Frame :=
  { hdr := { session := 5, context := [1, 2, 3, 4, 5, 6, 7, 8] },
    body := .send false 0 5 (.usend 2 1 5 157 [(1, 0)]) readA }

/-- Old code: status 0, and the data item is the *request* (0x4c …), not a reply. -/
theorem old_echoes_request :
    (processOld {} demoSrv witness).2 =
      .reply (echo witness 0 (sendFraming 0 5 [0x4c, 0x02, 0x91, 0x01, 0x41, 0x00, 0x02, 0x00])) := by
  decide +kernel

/-- … so the service-code clause fails for the old code: the first byte of the data item is not 0x4c ||| 0x80 -/
theorem old_violates_service_bit :
    ¬ ∃ bs : Bytes, (processOld {} demoSrv witness).2 = .reply (echo witness 0 (sendFraming 0 5 bs)) ∧
        bs.head? = some (Generated.svcReadTag ||| 0x80) := by
  rintro ⟨bs, h1, h2⟩
  -- the framing determines its data item: `bs` is the request
  rw [old_echoes_request] at h1
  simp only [Outcome.reply.injEq, echo, ReplyFrame.mk.injEq, true_and, sendFraming_eq, List.append_assoc,
    List.append_cancel_left_eq] at h1
  obtain rfl := (List.append_inj h1 (by rw [Bytes.le_length, Bytes.le_length])).2
  exact absurd h2 (by decide)

/-- the repaired code refuses the same frame: one header-only frame, status 0x08 -/
theorem fixed_refuses : (process {} demoSrv witness).2 = .reply (echo witness 8 []) := by decide +kernel

/-! ## non-vacuity -/

def ctx (n : Nat) : Bytes := [n, n, n, n, n, n, n, n]

def regFrame : Frame := { hdr := { session := 0, context := ctx 1 }, body := .register 1 0 [] }
def readFrame : Frame :=
  { hdr := { session := 9, context := ctx 2 }, body := .send false 0 5 (.usend 6 1 5 157 [(1, 0)]) readA }

/-- Register, read, write, List Services, an unknown service, and one more request that is never served -/
def demoFrames : List Frame :=
  [ regFrame, readFrame,
    { hdr := { session := 9, context := ctx 3 },
      body := .send false 0 5 .direct (.req (.simple (.writeTag [.cls 2, .ins 1, .attr 1] 195 1 [5, 0])) []) },
    { hdr := { session := 9, context := ctx 4 }, body := .listServices },
    { hdr := { session := 9, context := ctx 5 }, body := .send false 0 5 .direct (.unknown 0x77 [.cls 2, .ins 1] [0x77]) },
    { hdr := { session := 9, context := ctx 6 }, body := .listIdentity } ]

example : ∀ f ∈ demoFrames, f.parsable = true := by decide

/-- five of the six frames are consumed, five replies in request order, the first with the new handle 77, the
read answered with 0xcc (0x4c ||| 0x80) and the values 7, 8, the last with status 8 and no payload -/
example : (serve {} demoSrv demoFrames).consumed = 5
    ∧ (serve {} demoSrv demoFrames).replies.map (·.context) = [ctx 1, ctx 2, ctx 3, ctx 4, ctx 5]
    ∧ (serve {} demoSrv demoFrames).replies.map (·.session) = [77, 9, 9, 9, 9]
    ∧ (serve {} demoSrv demoFrames).replies.map (·.status) = [0, 0, 0, 0, 8]
    ∧ ((serve {} demoSrv demoFrames).replies.map (·.payload))[1]? =
        some ([0, 0, 0, 0, 5, 0, 2, 0, 0, 0, 0, 0, 0xb2, 0, 10, 0] ++ [0xcc, 0, 0, 0, 0xc3, 0, 7, 0, 8, 0])
    ∧ (serve {} demoSrv demoFrames).end = .closed := by decide +kernel

/-- hypotheses of `service_bit` are satisfiable (the read above) -/
example : routable {} (.usend 6 1 5 157 [(1, 0)]) = true
    ∧ (exec demoDev (.simple (.readTag [.symbolic "A"] 2))).2 = some [0xcc, 0, 0, 0, 0xc3, 0, 7, 0, 8, 0] := by
  decide +kernel

/-- `tag_request_answered` applies to the demo device -/
example : demoDev.WF := by
  intro c i a t h
  unfold Dev.attr? Dev.obj? demoDev at h
  simp only [objGet] at h
  split at h
  · simp only [Option.bind_some, Obj.attr?, attrGet] at h
    split at h
    · cases h
      unfold Tag.WF
      decide
    · cases h
  · cases h

/-- hypotheses of `unsupported_nonzero`: a route path the personality refuses; an Unconnected Send to @2/1 -/
example : routable { route := .only [(1, 0)] } (.usend 6 1 5 157 [(1, 1)]) = false
    ∧ routable {} (.usend 2 1 5 157 []) = false := by decide +kernel

/-- an unknown Tag is a supported service with a CIP failure status: full reply (0xcc, status 0x05 + one extended
status word 0), encapsulation status 0, and the session goes on to serve the next request -/
example : (serve {} demoSrv
      [ { hdr := { session := 9, context := ctx 7 },
          body := .send false 0 5 .direct (.req (.simple (.readTag [.symbolic "nosuch"] 1)) []) }, readFrame ]).replies.map
        (fun r => (r.status, r.payload.drop 16)) = [(0, [0xcc, 0, 5, 1, 0, 0]), (0, [0xcc, 0, 0, 0, 0xc3, 0, 7, 0, 8, 0])] := by
  decide +kernel

/-- routing table {1/9}: a forwarded unknown service fails with 0x65 on one connection; the forwarded Read Tag on the
next connection is answered in full (0xcc …), by a fresh connection to the route's device (handle 78 drawn) -/
example :
    let cfg : Cfg := { routes := [(1, 9)] }
    let bad : Frame := { hdr := { session := 3, context := ctx 1 },
                         body := .send false 0 5 (.usend 6 1 5 157 [(1, 9)]) (.unknown 0x77 [.cls 2, .ins 1] [0x77]) }
    let good : Frame := { hdr := { session := 4, context := ctx 2 },
                          body := .send false 0 5 (.usend 6 1 5 157 [(1, 9)]) readA }
    (serveSessions cfg { demoSrv with rand := [77, 78] } [[bad], [good]]).map
        (fun r => (r.replies.map fun x => (x.status, x.payload.drop 16), r.srv.routeConn, r.srv.rand))
      = [([(0x65, [])], false, [78]), ([(0, [0xcc, 0, 0, 0, 0xc3, 0, 7, 0, 8, 0])], true, [])] := by
  decide +kernel

/-- hypotheses of `routed_service_bit` / `routed_failure_nonzero` are satisfiable -/
example : routedVia { routes := [(1, 9)] } (.usend 6 1 5 157 [(1, 9)]) = some .direct
    ∧ routedVia { routes := [(1, 9)] } (.usend 6 1 5 157 [(1, 9), (1, 0)]) = some (.usend 6 1 5 157 [(1, 0)])
    ∧ connAvailable { demoSrv with rand := [0, 5] } ∧ ¬ connAvailable { demoSrv with rand := [0, 0] } := by
  unfold connAvailable
  decide

/-- a Large Forward Open, parameters `ncp` both ways -/
def lfo (ncp : Nat) : Frame :=
  { hdr := { session := 9, context := ctx 3 },
    body := .send false 0 5 .direct
      (.cm (.fwdOpen true 5 157 1 2 7 0x1234 0xdeadbeef 1 1000 ncp 2000 ncp 0xa3 [.cls 2, .ins 1]) []) }

/-- point-to-point both ways (the Target draws the O->T connection ID 0x111): answered by 0xdb; a second one for the
same O->T connection ID of a Null connection is refused with CIP status 8 -- still 0xdb -/
example :
    (serve {} { demoSrv with rand := [0x111] } [lfo (0x42000000 + 4000), lfo 4000, lfo 4000]).replies.map
        (fun r => (r.status, (r.payload.drop 16).take 8))
      = [(0, [0xdb, 0, 0, 0, 0x11, 0x01, 0, 0]), (0, [0xdb, 0, 0, 0, 1, 0, 0, 0]), (0, [0xdb, 0, 8, 0, 7, 0, 0x34, 0x12])] := by
  decide +kernel

/-- size limit 4: a Register Session of exactly 4 payload octets is served, one of 5 is refused with 0x65 -/
example :
    (process { size := some 4 } demoSrv
        { hdr := { session := 0, context := ctx 1, length := 4 }, body := .register 1 0 [] }).2 =
        .reply { command := 0x65, session := 77, status := 0, context := ctx 1, options := 0, payload := [1, 0, 0, 0] }
    ∧ (process { size := some 4 } demoSrv
        { hdr := { session := 0, context := ctx 1, length := 5 }, body := .register 1 0 [9] }).2 =
        .reply { command := 0x65, session := 0, status := 0x65, context := ctx 1, options := 0, payload := [] } := by
  decide +kernel

/-- batches: [register, read] then [write] then the rest = all at once (instance of `pipelining_irrelevant`) -/
example : serveBatches {} demoSrv [demoFrames.take 2, [], (demoFrames.drop 2).take 1, demoFrames.drop 3]
    = serve {} demoSrv demoFrames := by
  rw [pipelining_irrelevant]; rfl

/-- Unregister in the middle: nothing is sent for it nor after it -/
example : (serve {} demoSrv [regFrame, { hdr := { session := 1, context := ctx 9 }, body := .unregister [] },
    readFrame]).replies.length = 1 := by decide +kernel

/-- the random source delivering only zeros: Register Session is refused (status 8), handle unchanged -/
example : (process {} { demoSrv with rand := [0, 0] } regFrame).2 =
    .reply { command := 0x65, session := 0, status := 8, context := ctx 1, options := 0, payload := [] } := by
  decide +kernel

end Cpppo.Session
