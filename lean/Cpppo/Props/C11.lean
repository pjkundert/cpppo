import Cpppo.Proofs.Bisim

/-!
# C11 — Regular-expression machines accept exactly the expression's language

The machine is `rxRun F bytes .fixed` (model of `state.from_regex` + the dfa run, `Variant.fixed`: the code of /repo as it stands) for a
greenery fsm `F`; the language is `F.lang`, and — given that `F` accepts exactly the sentences of an
expression `r` (validated per tested expression by the correspondence, `rx.lang`) — `r.lang`, the
standard semantics (Mathlib `Language`; `Rx.matches'_toRE` ties it to `RegularExpression.matches'`).

* `rx_longest_live_prefix`, `rx_accept_iff`, `rx_reject_not_absorb`, `rx_never_refused` — for every
  well-formed reduced fsm and every input: what is consumed is the longest prefix that can still be
  extended to a sentence; acceptance iff it is a sentence of length ≥ 1; the next symbol is not absorbed.
* `live_iff_extendable` / `live_iff_extendable_cert` — cpppo's local dead-state test is exact.
* `regex_machine_correct` — the machine equals the specification run `specRun r` of the expression;
  `specRun_spec` says what that is in terms of `r.lang`; `rmatch_iff_matches'` is the Mathlib tie.
* `regex_machine_correct_cert` — the same with the hypothesis on the languages replaced by a decidable
  bisimulation certificate (`isBisim`, sound by `isBisim_sound`); `greenery_fsm_witness`: greenery's fsm
  for `(aa+)?` is wrong (known finding).
* `rx_chunk_independent` — chunking is irrelevant (no empty chunk; an empty chunk ends the run).
* `utf8_simulation_partial` — byte machines: on the UTF-8 encoding of a text whose characters are named
  by the alphabet or are single bytes, exactly the encoding of what the character machine consumes is
  consumed, with the same outcome.  `utf8_simulation_fails` refutes the statement without that
  hypothesis (known finding: `é.` on `éê`).
* `old_*` — the code before the `fix:` commit violates the property (two witnesses).
-/
namespace Cpppo.Regex
open Cpppo.Rx

/-- the language of the fsm (greenery's `accepts`) -/
def Fsm.lang (F : Fsm) : Language Sym := {w | F.accepts w = true}

theorem Fsm.mem_lang (F : Fsm) (w : List Sym) : w ∈ F.lang ↔ F.accepts w = true := Iff.rfl

/-- `p` is the longest prefix of `w` that can still be extended to a sentence of `L` -/
def LongestViablePrefix (L : Language Sym) (w p : List Sym) : Prop :=
  p <+: w ∧ Rx.Viable L p ∧ ∀ p', p' <+: w → Rx.Viable L p' → p'.length ≤ p.length

theorem LongestViablePrefix.unique {L : Language Sym} {w p p' : List Sym}
    (h : LongestViablePrefix L w p) (h' : LongestViablePrefix L w p') : p = p' := by
  have l1 := h.2.2 p' h'.1 h'.2.1
  have l2 := h'.2.2 p h.1 h.2.1
  exact (List.prefix_of_prefix_length_le h.1 h'.1 l2).eq_of_length (Nat.le_antisymm l2 l1)

theorem Fsm.viable_iff_live (F : Fsm) (p : List Sym) :
    Rx.Viable F.lang p ↔ F.Live (F.run F.init p) :=
  exists_congr fun v => by rw [F.mem_lang, Fsm.accepts, F.run_append]

/-- **cpppo's local dead-state test coincides with semantic deadness** (reduced fsm) -/
theorem live_iff_extendable (F : Fsm) (hwf : F.wf = true) (hr : F.Reduced) (hi : F.Live F.init)
    (q : Nat) (hq : F.inMap q = true) : F.dead q = false ↔ ∃ v, F.final (F.run q v) = true :=
  F.deadExact_of_reduced (F.wf_WF hwf) hr hi q hq

/-- the same from the decidable certificate the driver evaluates for every tested fsm -/
theorem live_iff_extendable_cert (F : Fsm) (hwf : F.wf = true) (hc : F.certLive = true)
    (q : Nat) (hq : F.inMap q = true) : F.dead q = false ↔ ∃ v, F.final (F.run q v) = true :=
  F.deadExact_of_cert (F.wf_WF hwf) hc q hq

theorem rx_longest_core (F : Fsm) (hwf : F.wf = true) (hd : F.DeadExact) (hi : F.Live F.init)
    (w : List Sym) : LongestViablePrefix F.lang w (rxRun F false .fixed w).consumed := by
  have h := F.wf_WF hwf
  rw [rxRun_char F h w]
  exact longestGo_spec (fun s c hs => F.step_inMap h s hs c) (fun _ _ => Fsm.Live.of_step)
    (F.kept_iff_live hd) w F.init F.viable_iff_live h.init hi

/-- **What is consumed is the longest prefix of the input that can still be extended to a sentence**
(and it is what is stored: `consumed` is both `source.sent` symbols and the `.input` value). -/
theorem rx_longest_live_prefix (F : Fsm) (hwf : F.wf = true) (hr : F.Reduced) (hi : F.Live F.init)
    (w : List Sym) : LongestViablePrefix F.lang w (rxRun F false .fixed w).consumed :=
  rx_longest_core F hwf (F.deadExact_of_reduced (F.wf_WF hwf) hr hi) hi w

/-- **Acceptance iff the consumed prefix has length at least one and is a sentence** (the empty prefix
is never accepted: the initial-state copy is not terminal). -/
theorem rx_accept_iff (F : Fsm) (hwf : F.wf = true) (w : List Sym) :
    (rxRun F false .fixed w).outcome = .ok ↔
      (rxRun F false .fixed w).consumed ≠ [] ∧ (rxRun F false .fixed w).consumed ∈ F.lang := by
  rw [rxRun_char F (F.wf_WF hwf) w]
  simp only [outcomeOf, F.mem_lang, Fsm.accepts, ← F.liveGo_run]
  cases (F.liveGo F.init w).1 with
  | nil => simp
  | cons c p => cases F.final (F.liveGo F.init w).2 <;> simp

/-- a machine over characters is never refused, so a run that does not accept ends in `NonTerminal` -/
theorem rx_never_refused (F : Fsm) (hwf : F.wf = true) (w : List Sym) :
    (rxRun F false .fixed w).outcome ≠ .refused := by
  rw [rxRun_char F (F.wf_WF hwf) w]
  unfold outcomeOf; split <;> simp

/-- **A symbol that cannot continue a sentence is left unconsumed** (rejected, not absorbed): the
first symbol after what was consumed makes the prefix inextensible. -/
theorem rx_reject_not_absorb (F : Fsm) (hwf : F.wf = true) (hr : F.Reduced) (hi : F.Live F.init)
    (w : List Sym) (c : Sym) (rest : List Sym)
    (hw : w = (rxRun F false .fixed w).consumed ++ c :: rest) :
    ¬ Rx.Viable F.lang ((rxRun F false .fixed w).consumed ++ [c]) := by
  intro hv
  have := (rx_longest_live_prefix F hwf hr hi w).2.2 _ ⟨rest, by rw [List.append_assoc]; exact hw.symm⟩ hv
  rw [List.length_append] at this
  exact Nat.not_succ_le_self _ this

/-- **the derivative matcher against Mathlib's semantics**: over any finite alphabet `σ`, the matcher
decides `RegularExpression.matches'` of the expression (with `.` and negated classes expanded over `σ`) -/
theorem rmatch_iff_matches' (σ : List Sym) (r : Rx) (w : List Sym) (hw : ∀ c ∈ w, c ∈ σ) :
    r.rmatch w = true ↔ w ∈ (Rx.toRE σ r).matches' := by
  rw [Rx.rmatch_iff, Rx.matches'_toRE σ r w hw]

/-- **the specification run is the property statement**: longest extensible prefix, accepted iff it is
a non-empty sentence -/
theorem specRun_spec (r : Rx) (hne : r.inhabited = true) (w : List Sym) :
    LongestViablePrefix r.lang w (r.specRun w).consumed ∧
    ((r.specRun w).accepted = true ↔ (r.specRun w).consumed ≠ [] ∧ (r.specRun w).consumed ∈ r.lang) := by
  refine ⟨Rx.specGo_spec r hne w, ?_⟩
  show (!(Rx.specGo r w).1.isEmpty && Rx.nullable (Rx.specGo r w).2) = true ↔
    (Rx.specGo r w).1 ≠ [] ∧ (Rx.specGo r w).1 ∈ r.lang
  rw [Rx.specGo_derivs, ← Rx.rmatch_iff, Rx.rmatch]
  cases (Rx.specGo r w).1 <;> simp

theorem Fsm.lang_eq {F : Fsm} {r : Rx} (hL : ∀ w, F.accepts w = r.rmatch w) : F.lang = r.lang := by
  ext v; rw [F.mem_lang, hL, Rx.rmatch_iff]

/-- **A machine built from an fsm that accepts exactly the sentences of `r` runs as the specification
of `r` demands**, on every input.  (`hL` is what the correspondence validates for each tested
expression against greenery's fsm; `hc` is evaluated by the driver.) -/
theorem regex_machine_correct (r : Rx) (F : Fsm) (hwf : F.wf = true) (hc : F.certLive = true)
    (hL : ∀ w, F.accepts w = r.rmatch w) (w : List Sym) :
    rxRun F false .fixed w =
      ⟨if (r.specRun w).accepted then .ok else .nonTerminal, (r.specRun w).consumed⟩ := by
  have h := F.wf_WF hwf
  have hd := F.deadExact_of_cert h hc
  have hi : F.Live F.init := (F.kept_iff_live hd F.init h.init).mp (F.kept_init h)
  have hlang := Fsm.lang_eq hL
  have hne : r.inhabited = true := by
    obtain ⟨v, hv⟩ := hi
    exact (Rx.inhabited_iff r).mpr ⟨v, hlang ▸ hv⟩
  -- both runs consume the longest viable prefix
  have hcons := (hlang ▸ rx_longest_core F hwf hd hi w).unique (Rx.specGo_spec r hne w)
  rw [rxRun_char F h w] at hcons ⊢
  dsimp only at hcons
  -- and the fsm accepts it iff the matcher does
  rw [F.liveGo_run, hcons, show F.final (F.run F.init (Rx.specGo r w).1) = Rx.nullable (Rx.specGo r w).2 from
    (hL _).trans (congrArg Rx.nullable (Rx.specGo_derivs r w).symm)]
  rfl

/-- **The same under decidable hypotheses only**: `isBisim F r R` (a bisimulation certificate between
the fsm and the iterated simplified derivatives of `r`, found by the driver's search and checked by the
verified `isBisim`) replaces the hypothesis on the languages.  This is what the correspondence evaluates
for every expression of the exhaustive scopes (`rx.lang … 1` answers `ok` only then). -/
theorem regex_machine_correct_cert (r : Rx) (F : Fsm) (hwf : F.wf = true) (hc : F.certLive = true)
    (R : List (Nat × Rx)) (hb : isBisim F r R = true) (w : List Sym) :
    rxRun F false .fixed w =
      ⟨if (r.specRun w).accepted then .ok else .nonTerminal, (r.specRun w).consumed⟩ :=
  regex_machine_correct r F hwf hc (isBisim_sound F r R hb) w

/-- a certificate shows that the fsm's language is the expression's -/
theorem fsm_lang_eq_of_bisim (r : Rx) (F : Fsm) (R : List (Nat × Rx)) (hb : isBisim F r R = true) :
    F.lang = r.lang :=
  Fsm.lang_eq (isBisim_sound F r R hb)

/-- **Known finding (greenery 2.1)**: for `(aa+)?` greenery builds the fsm of `a*` (its simplification
merges the multipliers `{2,}` and `?` into `*`), which accepts `a`; the expression does not. -/
def fsmAStar : Fsm :=
  { init := 0, finals := [0], map := [(0, [(none, 1), (some 97, 0)]), (1, [(none, 1), (some 97, 1)])] }

theorem greenery_fsm_witness :
    fsmAStar.accepts [97] = true ∧
    (Rx.opt (.cat (.lit 97) (Rx.plus (.lit 97)))).rmatch [97] = false ∧
    rxRun fsmAStar false .fixed [97] = ⟨.ok, [97]⟩ ∧
    (Rx.opt (.cat (.lit 97) (Rx.plus (.lit 97)))).specRun [97] = ⟨[97], false⟩ := by
  decide +kernel

/-- **The result does not depend on how the input is chunked** (characters or bytes, either code). -/
theorem rx_chunk_independent (F : Fsm) (bytes : Bool) (v : Variant) (chunks : List (List Sym))
    (hne : ∀ ch ∈ chunks, ch ≠ []) : rxRunChunks F bytes v chunks = rxRun F bytes v chunks.flatten := by
  unfold rxRunChunks rxRun
  simp only [walkChunks_flatten _ chunks _ hne]

/-- **Byte machines, partial**: if the construction is not refused and every character of the text is
named by the fsm's alphabet or is a single byte, the byte machine consumes exactly the UTF-8 encoding of
what the character machine consumes, with the same outcome.  (So, with the theorems above: the longest
extensible prefix, whole characters only, accepted iff a non-empty sentence.) -/
theorem utf8_simulation_partial (F : Fsm) (hwf : F.wf = true) (hnr : refused F true = false)
    (w : List Sym) (hdom : Utf8Dom F w) :
    rxRun F true .fixed (w.flatMap utf8) =
      ⟨(rxRun F false .fixed w).outcome, (rxRun F false .fixed w).consumed.flatMap utf8⟩ := by
  have h := F.wf_WF hwf
  rw [rxRun_char F h w]
  exact rxRun_encoded F h true hnr w fun _ => hdom

/-- the full statement (no hypothesis on the text) -/
def Utf8SimulationFull : Prop :=
  ∀ (F : Fsm), F.wf = true → refused F true = false → ∀ w : List Sym,
    rxRun F true .fixed (w.flatMap utf8) =
      ⟨(rxRun F false .fixed w).outcome, (rxRun F false .fixed w).consumed.flatMap utf8⟩

/-- greenery's fsm for `é.` (state 1 dead) -/
def fsmEDot : Fsm :=
  { init := 0, finals := [3],
    map := [(0, [(none, 1), (some 233, 2)]), (1, [(none, 1), (some 233, 1)]),
            (2, [(none, 3), (some 233, 3)]), (3, [(none, 1), (some 233, 1)])] }

/-- greenery's fsm for a single symbol `c` -/
def fsmOne (c : Sym) : Fsm :=
  { init := 0, finals := [1],
    map := [(0, [(none, 2), (some c, 1)]), (1, [(none, 2), (some c, 2)]), (2, [(none, 2), (some c, 2)])] }

/-- **Known finding**: `regex_bytes('é.')` on `'éê'` (C3 A9 C3 AA) consumes C3 A9 C3 and fails, although
the character machine accepts `éê`: the wildcard edge is never copied onto the extra states. -/
theorem utf8_finding_witness :
    rxRun fsmEDot true .fixed ([233, 234].flatMap utf8) = ⟨.nonTerminal, [0xC3, 0xA9, 0xC3]⟩ ∧
    rxRun fsmEDot false .fixed [233, 234] = ⟨.ok, [233, 234]⟩ := by
  decide +kernel

theorem utf8_simulation_fails : ¬ Utf8SimulationFull := by
  intro h
  have := h fsmEDot (by decide +kernel) (by decide +kernel) [233, 234]
  rw [utf8_finding_witness.1, utf8_finding_witness.2] at this
  exact absurd this (by decide)

/-- `regex_bytes('é')` on `'éé'`: the old code consumed the first byte of the second `é` (an edge into a
dead state) and failed; the repaired code accepts the first `é` and leaves the rest. -/
theorem old_consumes_dead_edge :
    rxRun (fsmOne 233) true .old ([233, 233].flatMap utf8) = ⟨.nonTerminal, [0xC3, 0xA9, 0xC3]⟩ ∧
    rxRun (fsmOne 233) true .fixed ([233, 233].flatMap utf8) = ⟨.ok, [0xC3, 0xA9]⟩ := by
  decide +kernel

/-- `regex_bytes('€')` on `'€'`: in the old code the second extra state took the key of the first (the
key of the dropped dead state had been skipped), so the first extra state had no edges and the
three-byte symbol could never be matched. -/
theorem old_three_byte_symbol_unusable :
    rxRun (fsmOne 0x20AC) true .old (utf8 0x20AC) = ⟨.nonTerminal, [0xE2]⟩ ∧
    rxRun (fsmOne 0x20AC) true .fixed (utf8 0x20AC) = ⟨.ok, [0xE2, 0x82, 0xAC]⟩ := by
  decide +kernel

/-! Non-vacuity: the hypotheses of the theorems above hold of concrete machines. -/

/-- greenery's fsm for `ab*` over the alphabet {a, b, anything-else}; state 1 is dead -/
def fsmAB : Fsm :=
  { init := 0, finals := [2],
    map := [(0, [(none, 1), (some 97, 2), (some 98, 1)]), (1, [(none, 1), (some 97, 1), (some 98, 1)]),
            (2, [(none, 1), (some 97, 1), (some 98, 2)])] }

example : fsmAB.wf = true ∧ fsmAB.certLive = true := by decide +kernel
example : rxRun fsmAB false .fixed [97, 98, 98, 99] = ⟨.ok, [97, 98, 98]⟩ := by decide +kernel
example : rxRun fsmAB false .fixed [98] = ⟨.nonTerminal, []⟩ := by decide +kernel
example : (Rx.cat (.lit 97) (.star (.lit 98))).specRun [97, 98, 98, 99] = ⟨[97, 98, 98], true⟩ := by
  decide +kernel
example : rxRunChunks fsmAB false .fixed [[97], [98, 98], [99]] = ⟨.ok, [97, 98, 98]⟩ := by decide +kernel
/-- the certificate search finds a bisimulation for `ab*` and the checker accepts it -/
example : isBisim fsmAB (.cat (.lit 97) (.star (.lit 98))) (explore fsmAB (.cat (.lit 97) (.star (.lit 98))) 50)
    = true := by decide +kernel
/-- … and no certificate exists for greenery's fsm of `(aa+)?` -/
example : isBisim fsmAStar (Rx.opt (.cat (.lit 97) (Rx.plus (.lit 97))))
    (explore fsmAStar (Rx.opt (.cat (.lit 97) (Rx.plus (.lit 97)))) 50) = false := by decide +kernel
/-- the hypotheses of `utf8_simulation_partial` hold for `é.` on the text `éa` -/
example : fsmEDot.wf = true ∧ refused fsmEDot true = false ∧
    (∀ x ∈ [233, 97], x < 128 ∨ fsmEDot.named x = true) := by decide +kernel
example : rxRun fsmEDot true .fixed ([233, 97].flatMap utf8) = ⟨.ok, [0xC3, 0xA9, 97]⟩ := by decide +kernel
/-- the liveness certificate is not vacuous: it fails when a second, unreachable-from-final state is kept -/
example : ({ fsmAB with map := fsmAB.map ++ [(3, [(none, 1), (some 97, 3), (some 98, 3)])] } : Fsm).certLive
    = false := by decide +kernel

end Cpppo.Regex
