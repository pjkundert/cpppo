import Cpppo.Proofs.Exec

/-!
# C05 — Invalid requests are refused without side effects; accepted writes stay readable

About `Cpppo.Logix.execSimple` (model of `Logix.request` / `Object.request`, which refuse a value not
representable in the tag's type, an attribute service whose path designates another object, and an
element count that extends beyond the end).  `oldWriteThenRead` shows what storing an unchecked value
leads to.
-/
namespace Cpppo.Logix

theorem execTag_read_noop (d : Dev) (self : Nat × Nat) (svc : Nat) (isFrag : Bool) (p : Path)
    (n off : Nat) : (execTag d self svc true isFrag p 0 n off []).1 = d := by
  generalize hx : execTag d self svc true isFrag p 0 n off [] = x
  cases execTag_outcome hx with
  | wrote _ hrd => cases hrd
  | _ => rfl

/-- **A tag-service request answered with a failure status leaves every tag exactly as it was.** -/
theorem execTag_refused_noop (d : Dev) (self : Nat × Nat) (svc : Nat) (isRead isFrag : Bool) (p : Path)
    (reqTy n off : Nat) (data : Bytes)
    (h : (execTag d self svc isRead isFrag p reqTy n off data).2.status ≠ 0) :
    (execTag d self svc isRead isFrag p reqTy n off data).1 = d := by
  generalize hx : execTag d self svc isRead isFrag p reqTy n off data = x at h
  cases execTag_outcome hx with
  | wrote => exact absurd rfl h
  | _ => rfl

theorem execAttr_refused_noop (d : Dev) (self : Nat × Nat) (s : Simple)
    (h : (execAttr d self s).2.status ≠ 0) : (execAttr d self s).1 = d := by
  generalize hx : execAttr d self s = x at h
  cases execAttr_outcome hx with
  | quiet => rfl
  | stored => exact absurd rfl h

/-- **Every non-bundle request: failure status ⇒ the device is unchanged.** -/
theorem refused_noop (d : Dev) (s : Simple) (h : (execSimple d s).2.status ≠ 0) :
    (execSimple d s).1 = d := by
  unfold execSimple execSimpleAt at h ⊢
  cases s with
  | readTag | readFrag | writeTag | writeFrag => exact execTag_refused_noop _ _ _ _ _ _ _ _ _ _ h
  | _ => exact execAttr_refused_noop _ _ _ h

/-- **Unknown tag / object / attribute → status 0x05 (extended 0x0000).** -/
theorem unknown_tag_status (d : Dev) (self : Nat × Nat) (svc : Nat) (isRead isFrag : Bool) (p : Path)
    (reqTy n off : Nat) (data : Bytes) (h : resolveTag d self p = none) :
    execTag d self svc isRead isFrag p reqTy n off data = (d, errReply svc 5 [0]) := by
  unfold execTag; rw [h]

/-- **A data type the tag cannot hold (type not admissible, or a value not representable in the tag's
type) → 0xFF / 0x2107.** -/
theorem type_mismatch_status (d : Dev) (self : Nat × Nat) (svc : Nat) (isFrag : Bool) (p : Path)
    (reqTy n off : Nat) (data : Bytes) (c i a : Nat) (tag : Tag)
    (hr : resolveTag d self p = some (c, i, a, tag)) (h : convWrite tag reqTy data = none) :
    execTag d self svc false isFrag p reqTy n off data = (d, errReply svc 255 [0x2107]) := by
  unfold execTag; rw [hr]; simp [h]

/-- **Range errors (start index beyond the end, more elements than the tag holds, range past the end,
zero count) → 0xFF / 0x2105**, for an existing tag and admissible data. -/
theorem range_error_status (d : Dev) (self : Nat × Nat) (svc : Nat) (isRead isFrag : Bool) (p : Path)
    (reqTy n off : Nat) (data : Bytes) (c i a : Nat) (tag : Tag)
    (hr : resolveTag d self p = some (c, i, a, tag))
    (hw : isRead = true ∨ (convWrite tag reqTy data).isSome)
    (h : tag.len ≤ resolveElement p ∨ tag.len < n ∨ tag.len < resolveElement p + n ∨ n = 0) :
    execTag d self svc isRead isFrag p reqTy n off data = (d, errReply svc 255 [0x2105]) := by
  unfold execTag; rw [hr]
  dsimp only
  cases isRead with
  | true => rw [if_pos rfl]; dsimp only; rw [tagAccess_range_refused h]
  | false =>
    obtain ⟨w, hw⟩ := Option.isSome_iff_exists.mp (hw.resolve_left Bool.false_ne_true)
    rw [if_neg Bool.false_ne_true, hw]; dsimp only; rw [tagAccess_range_refused h]

/-- Well-formedness is an invariant of every request. -/
theorem execTag_preserves_wf (d : Dev) (hwf : d.WF) (self : Nat × Nat) (svc : Nat) (isRead isFrag : Bool)
    (p : Path) (reqTy n off : Nat) (data : Bytes) :
    (execTag d self svc isRead isFrag p reqTy n off data).1.WF := by
  generalize hx : execTag d self svc isRead isFrag p reqTy n off data = x
  cases execTag_outcome hx with
  | wrote hr _ hw hacc =>
    have htwf := hwf _ _ _ _ (resolveTag_some hr).1
    exact hwf.setAttr (tagAccess_wrote_wf htwf (convWrite_canon hw) hacc).1 _ _ _
  | _ => exact hwf

/-- every element of a well-formed tag can be produced -/
theorem Tag.WF.encodable {t : Tag} (h : t.WF) (vs : List Val) (hsub : ∀ v ∈ vs, v ∈ t.vals) :
    ∃ bs, vs.mapM (Val.encode t.ty) = some bs := by
  induction vs with
  | nil => exact ⟨[], rfl⟩
  | cons v rest ih =>
    obtain ⟨hv, hsub⟩ := List.forall_mem_cons.mp hsub
    obtain ⟨bs, hbs⟩ := ih hsub
    have hv := h.1 v hv
    obtain ⟨b, hb⟩ := (Val.conv_canon t.ty v v hv).2
    exact ⟨b :: bs, by simp [List.mapM_cons, hb, hbs]⟩

/-- **No accepted request can make a tag unreadable: on a well-formed device every tag-service reply
can be produced** (so no later request's session ends in `produce`). -/
theorem execTag_reply_producible (d : Dev) (hwf : d.WF) (self : Nat × Nat) (svc : Nat)
    (isRead isFrag : Bool) (p : Path) (reqTy n off : Nat) (data : Bytes) :
    ∃ bs, encodeReply (execTag d self svc isRead isFrag p reqTy n off data).2 = some bs := by
  generalize hx : execTag d self svc isRead isFrag p reqTy n off data = x
  cases execTag_outcome hx with
  | @read _ _ _ tag _ _ hr _ hacc =>
    -- the elements returned are stored elements of a well-formed tag
    obtain ⟨beg, k, -, -, -, -, rfl, -, -⟩ := tagAccess_read_inv hacc
    obtain ⟨bs, hbs⟩ := (hwf _ _ _ _ (resolveTag_some hr).1).encodable ((tag.vals.drop beg).take k)
      fun v hv => List.mem_of_mem_drop (List.mem_of_mem_take hv)
    simp only [encodeReply, hbs, Option.map_some]
    split <;> exact ⟨_, rfl⟩
  | _ => exact ⟨_, rfl⟩

/-! ### what the representability check prevents -/

/-- a one-element SINT tag whose value is stored without checking that SINT can represent it: the
bytes a later read packs with the tag's format (`none` = `produce` raises) -/
def oldWriteThenRead (v : Int) : Option Bytes :=
  Val.encode .sint (.int v)

/-- USINT 200 written into a SINT tag was acknowledged; the next read cannot be produced. -/
theorem old_write_unreadable : oldWriteThenRead 200 = none := by decide

/-- the repaired model refuses exactly that write with a type error -/
theorem new_write_refused : Val.conv .sint (.int 200) = none := by decide

/-! ### non-vacuity -/

def demoDev : Dev :=
  { objs := [{ cls := 2, ins := 1, attrs := [(1, { ty := .sint, scalar := false, vals := [.int 1, .int 2, .int 3] })] }],
    symbols := [("a", (2, 1, 1))] }

example : demoDev.WF := by
  intro c i a t h
  simp only [Dev.attr?, Dev.obj?, demoDev, objGet, Obj.attr?] at h
  split at h
  · simp only [Option.bind_some, attrGet] at h
    split at h
    · cases h; exact ⟨by decide, by decide⟩
    · cases h
  · cases h

/-- a refused request on a non-trivial device: USINT 200 into the SINT tag `a` -/
example : (execSimple demoDev (.writeTag [.symbolic "A"] 198 1 [200])).2.status = 255
    ∧ (execSimple demoDev (.writeTag [.symbolic "A"] 198 1 [200])).2.ext = [0x2107] := by decide +kernel

example : (execSimple demoDev (.readTag [.symbolic "a", .elem 1] 3)).2.status = 255 := by decide +kernel

end Cpppo.Logix
