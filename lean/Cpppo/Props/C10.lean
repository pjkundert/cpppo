import Cpppo.Proofs.Source
import Cpppo.Proofs.Engine

/-!
# C10 — A length limit bounds what a nested parser may consume

Theorems about the models `Cpppo.Source` (`peeking`/`chaining`) and `Cpppo.Engine`
(`state.run`/`state.transition`/`dfa_base.delegate`), for **every** machine of the DSL, every state of
it at every nesting depth, every input, every chunking of the input, every limit and repeat value
(constant, data field or environment-supplied) and every amount of fuel.  A run that does not return
`.ok` is a failed parse (`NonTerminal`, `AssertionError`) - the property speaks about successful runs
("... or it fails").
-/
namespace Cpppo.Source

/-! ## `sent` is the number of symbols actually taken, across push-back and chained blocks -/

/-- **Refinement.**  Any sequence of `next`/`peek`/`push`/`chain` on the concrete iterator (push-back
stack, current block, queue of chained blocks) returns what the same sequence returns on the plain
list of remaining symbols, and leaves the corresponding list and the same `sent`. -/
theorem source_refines (s : Source) (ops : List Op) :
    (s.steps ops).1 = (s.abs.steps ops).1 ∧ (s.steps ops).2.abs = (s.abs.steps ops).2 :=
  steps_abs s ops

/-- **`sent` = symbols delivered by `next` − symbols pushed back**, whatever the interleaving with
`peek` (which pulls a symbol and pushes it back) and `chain`. -/
theorem sent_counts (s : Source) (ops : List Op) :
    (s.steps ops).2.sent = s.sent + countNext ops (s.steps ops).1 - countPush ops := by
  have h := steps_abs s ops
  have := steps_sent s.abs ops
  rw [← h.1, ← h.2] at this
  exact this

/-- **`sent` counts what is missing from the input.**  When every `push` gives back the most
recently taken symbol (the discipline `remembering.push` asserts, and the only way the engine uses
`push`, through `peek`), then the symbols taken and not given back, followed by what the source
still holds, are exactly the original content followed by all chained blocks in order - and `sent`
has advanced by the number of symbols taken and not given back. -/
theorem sent_counts_taken (s : Source) (ops : List Op) (h : disciplined [] s.abs ops = true) :
    (takenAfter [] s.abs ops).reverse ++ (s.steps ops).2.view = s.view ++ chained ops
    ∧ (s.steps ops).2.sent = s.sent + (takenAfter [] s.abs ops).length := by
  have hr := steps_abs s ops
  have := disciplined_accounts [] s.abs ops h
  rw [← hr.2] at this
  simp only [List.reverse_nil, List.nil_append, List.length_nil] at this
  have h2 : (s.steps ops).2.sent - ((takenAfter [] s.abs ops).length : Int) = s.sent - (0 : Nat) := this.2
  exact ⟨this.1, by omega⟩

/-- non-vacuity: a disciplined sequence mixing all four operations over two chained blocks -/
example : disciplined [] ({ cur := [1, 2] } : Source).abs
    [.next, .peek, .chain [3], .next, .push 2, .chain [], .chain [4, 5], .next, .next, .next, .next, .next] = true
    := by decide

example : (({ cur := [1, 2] } : Source).steps
    [.next, .peek, .chain [3], .next, .push 2, .chain [], .chain [4, 5], .next, .next, .next, .next, .next]).2.sent
    = 5 := by decide

/-- a `push` that is not preceded by a `next` makes `sent` negative (why `sent` is an `Int`) -/
example : (({ cur := [7] } : Source).steps [.push 9]).2.sent = -1 := by decide

end Cpppo.Source

namespace Cpppo.Engine
open Cpppo.Source

/-! ## the limit -/

/-- **A run that ends by itself ends at or before the ending it was given.**  For every state of
every machine (so for every nested parser), every enclosing ending, every world. -/
theorem run_limit (M : Machine) (f i : Nat) (ps : Option (List Crumb)) (x : Int) (w : World)
    (r : RunOut) (h : runState M f i ps (some x) w = .ok r) (hc : r.closed = false) :
    r.w.sent ≤ x :=
  (runState_good M f i ps (some x) w r h).lim hc x rfl

/-- **So does a run whose generator is closed by the enclosing `delegate`** (stasis), although the
code then skips the final `assert source.sent <= ending`: provided the run started within the ending
and the delegate's `seen` set holds no crumb from the future (both hold for every run started by
`delegate`, see `sub_machine_limit`). -/
theorem run_limit_closed (M : Machine) (f i : Nat) (ps : Option (List Crumb)) (x : Int) (w : World)
    (r : RunOut) (h : runState M f i ps (some x) w = .ok r) (hc : r.closed = true)
    (hps : CrumbsLe ps w.sent) (hw : w.sent ≤ x) : r.w.sent ≤ x :=
  (runState_good M f i ps (some x) w r h).closedLim hc hps x rfl hw

/-- **The sub-machine of a dfa never ends beyond the ending**, however its states' runs ended
(by themselves or closed), for every dfa at every depth: the symbols after the boundary are left to
the enclosing grammar. -/
theorem sub_machine_limit (M : Machine) (f f' i : Nat) (x : Int) (w : World)
    (out : World × Nat × Bool) (h : delegate M (runState M f) i (some x) f' w = .ok out)
    (hw : w.sent ≤ x) : out.1.sent ≤ x :=
  (delegate_spec (runState_good M f) h).2.1
    (fun y hy => by cases hy; exact hw) x rfl

/-- **A state given `limit = L` (constant, data field or callable) completes having consumed at
most its own symbol plus `L`** - whatever the enclosing ending. -/
theorem run_own_limit (M : Machine) (f i : Nat) (e : Option Int) (w : World) (r : RunOut) (L : Nat)
    (h : runState M f i none e w = .ok r) (hL : (resolve w (M.st i).limit).1 = some L) :
    r.w.sent ≤ w.sent + (M.st i).own + L := by
  have g := runState_good M f i none e w r h
  exact g.ownLim L hL fun hc => nomatch (g.top rfl).symm.trans hc

/-- the same for a nested state (run by a `delegate` with its `seen` set) -/
theorem run_own_limit_nested (M : Machine) (f i : Nat) (ps : Option (List Crumb)) (e : Option Int)
    (w : World) (r : RunOut) (L : Nat) (h : runState M f i ps e w = .ok r)
    (hL : (resolve w (M.st i).limit).1 = some L) (hps : CrumbsLe ps w.sent) :
    r.w.sent ≤ w.sent + (M.st i).own + L :=
  (runState_good M f i ps e w r h).ownLim L hL (fun _ => hps)

/-- **`ending` only shrinks**: the ending a state passes to its sub-machine and uses for itself is
at most the enclosing one and at most `sent + limit`. -/
theorem run_ending_shrinks (e : Option Int) (s : Int) (L : Nat) :
    ∃ y, shrink e s (some L) = some y ∧ y ≤ s + L ∧ (∀ x, e = some x → y ≤ x) := by
  cases hy : shrink e s (some L) with
  | none => nomatch (shrink_none hy).2
  | some y =>
    have ⟨h1, h2⟩ := Within.of_shrink (e := e) (s := s) (l := some L) (p := y)
      (by rw [hy]; rintro _ ⟨⟩; exact Int.le_refl y)
    exact ⟨y, rfl, h2 L rfl, h1⟩

/-- nested limits give the minimum -/
theorem nested_endings (s1 s2 : Int) (L1 L2 : Nat) :
    shrink (shrink none s1 (some L1)) s2 (some L2) = some (min (s1 + L1) (s2 + L2)) := by
  simp only [shrink]
  split
  · rw [Int.min_eq_right (by omega)]
  · rw [Int.min_eq_left (by omega)]

/-- no limit: the enclosing ending is passed on unchanged -/
theorem no_limit_keeps_ending (e : Option Int) (s : Int) : shrink e s none = e := rfl

/-! ## nothing skipped, nothing reordered; `sent` is what was taken -/

/-- **A run consumes a prefix of what was still to be delivered** (the source's remaining symbols
followed by the blocks the driver had not chained yet): what is left afterwards is the rest, in
order, and `sent` has advanced by exactly the length of that prefix. -/
theorem run_consumed_prefix (M : Machine) (f i : Nat) (ps : Option (List Crumb)) (e : Option Int)
    (w : World) (r : RunOut) (h : runState M f i ps e w = .ok r) :
    ∃ consumed, w.total = consumed ++ r.w.total ∧ r.w.sent = w.sent + consumed.length :=
  (runState_good M f i ps e w r h).adv

/-! ## repeat -/

/-- **A repeat count of `n` runs the sub-machine exactly `n` times** (`None` = once): never more;
fewer only when the no-progress detection (`stasis`) ended the loop, and then at least once; and
with `n = 0` not at all - nothing is consumed. -/
theorem repeat_exact (M : Machine) (f f' i : Nat) (e : Option Int) (w : World) (init : Nat)
    (rep : Spec) (store : Option Nat) (out : World × Nat × Bool)
    (hk : (M.st i).kind = .dfa init rep store)
    (h : delegate M (runState M f) i e f' w = .ok out) :
    out.2.1 ≤ repeatOf w rep
    ∧ (out.2.2 = false → out.2.1 = repeatOf w rep)
    ∧ (out.2.2 = true → 1 ≤ out.2.1)
    ∧ (repeatOf w rep = 0 → out.2.1 = 0 ∧ out.1.sent = w.sent ∧ out.1.total = w.total) :=
  (delegate_spec (runState_good M f) h).2.2 init rep store hk

/-- **`octets` / `octets_drop` / `octets_struct` with repeat `n` consume exactly `n` symbols or
fail** (a dfa over a single consuming terminal state): fixed-size fields, payloads counted by a
length field (`enip_machine`'s `repeat='.length'`, Unconnected Send's request) and the repaired
"unrecognized CPF item" scanner end exactly at the boundary the count declares, never beyond it. -/
theorem octets_exact (M : Machine) (f f' i j : Nat) (e : Option Int) (w : World) (rep : Spec)
    (out : World × Nat × Bool)
    (hk : (M.st i).kind = .dfa j rep none) (hb : (M.st j).isByte)
    (h : delegate M (runState M f) i e f' w = .ok out) :
    out.1.sent = w.sent + repeatOf w rep :=
  delegate_bytes hk hb h

/-! ## the outermost run -/

/-- **A top-level parser given `limit = L` that completes has consumed at most `L` symbols (after
its own), the consumed symbols are a prefix of the input, and everything after them - in
particular every byte beyond the boundary - is still there, in order.** -/
theorem top_limit (M : Machine) (fuel top : Nat) (w w' : World) (t : Bool) (L : Nat)
    (h : runTop M fuel top w = .ok (w', t)) (hL : (resolve w (M.st top).limit).1 = some L) :
    ∃ consumed, w.total = consumed ++ w'.total
      ∧ w'.sent = w.sent + consumed.length
      ∧ consumed.length ≤ (M.st top).own + L := by
  revert h
  fun_cases runTop M fuel top w with
  | case1 => nofun
  | case2 r hr =>  -- the run completed
    rintro ⟨⟩
    obtain ⟨c, hc, hs⟩ := run_consumed_prefix M fuel top none none w r hr
    have := run_own_limit M fuel top none w r L hr hL
    exact ⟨c, hc, hs, by omega⟩

/-- the outermost run is never closed from outside: its final assertion is always evaluated -/
theorem top_not_closed (M : Machine) (f i : Nat) (e : Option Int) (w : World) (r : RunOut)
    (h : runState M f i none e w = .ok r) : r.closed = false :=
  (runState_good M f i none e w r h).top rfl

/-! ## non-vacuity: concrete machines (tests by evaluation) -/

/-- `.*` as `cpppo.regex` builds it: a non-consuming, non-terminal copy of the initial state in
front of a consuming loop -/
def starLoop (b : Nat) : State := { kind := .input, term := true, edges := [(.any, [.plain (some b)])] }
def starInit (b : Nat) : State := { kind := .null, edges := [(.any, [.plain (some b)])] }

/-- SSTRING-like: a one-byte length field (states 0-3), then `.*` limited by it (4-6), then a tail
that drops whatever follows (7); 8 is the outer dfa.
0 byte leaf, 1 done, 2 octets_struct(1) -> field 0, 3 field wrapper, 4 loop, 5 star init,
6 body dfa limit=field 0, 7 tail, 8 top -/
def sstringM (tail : Bool) : Machine :=
  [ { kind := .input, term := true },
    { kind := .null, term := true },
    { kind := .dfa 0 (.const 1) (some 0), edges := [(.eps, [.guard .always (some 1)])] },
    { kind := .dfa 2 .none none, edges := [(.eps, [.plain (some 6)])] },
    starLoop 4,
    starInit 4,
    { kind := .dfa 5 .none none, term := true, limit := .field 0,
      edges := if tail then [(.eps, [.plain (some 7)])] else [] },
    { kind := .drop, term := true, edges := [(.any, [.plain (some 7)])] },
    { kind := .dfa 3 .none none, term := true } ]

def sentOf (r : Except (Err × World) (World × Bool)) : Option (Int × Option Sym × Bool) :=
  match r with
  | .ok (w, t) => some (w.sent, w.peek, t)
  | .error _ => none

def errOf (r : Except (Err × World) (World × Bool)) : Option (Err × Int) :=
  match r with
  | .ok _ => none
  | .error (e, w) => some (e, w.sent)

/-- length 2, body `7 8`, then `9 9` dropped by the tail state: everything consumed, terminal -/
example : sentOf (runTop (sstringM true) 40 8 { src := { rest := [2, 7, 8, 9, 9] } })
    = some (5, none, true) := by
  decide +kernel

/-- without the tail state the limited body stops after two symbols and leaves `9 9`, although
`.*` would accept them; also when run on its own with the length already parsed -/
example : sentOf (runTop (sstringM false) 40 8 { src := { rest := [2, 7, 8, 9, 9] } })
      = some (3, some 9, true)
    ∧ sentOf (runTop (sstringM false) 40 6 { src := { rest := [7, 8, 9, 9] }, data := [(0, 2)] })
      = some (2, some 9, true) := by
  decide +kernel

/-- the same input arriving in three blocks gives the same result -/
example : sentOf (runTop (sstringM false) 40 8 { src := { rest := [2] }, pend := [[7, 8, 9], [9]] })
    = some (3, some 9, true) := by
  decide +kernel

/-- a length longer than the data: `.*` accepts the shorter body, the parse completes with what
there is (still within the limit) -/
example : sentOf (runTop (sstringM false) 40 8 { src := { rest := [5, 7, 8] } })
    = some (3, none, true) := by
  decide +kernel

/-- `octets(repeat=5, limit=lim)` -/
def octetsM (lim : Nat) : Machine :=
  [ { kind := .input, term := true },
    { kind := .dfa 0 (.const 5) none, term := true, limit := .const lim } ]

-- with `limit=3` the fourth symbol is taken past the ending and the final assertion fails: the parse
-- does not complete; with `limit=5` it does
example : errOf (runTop (octetsM 3) 40 1 { src := { rest := [1, 2, 3, 4, 5, 6] } })
    = some (.assertion, 4) := by
  decide +kernel

example : sentOf (runTop (octetsM 5) 40 1 { src := { rest := [1, 2, 3, 4, 5, 6] } })
    = some (5, some 6, true) := by
  decide +kernel

/-- the hypotheses of `octets_exact` hold for this machine -/
example : ((octetsM 5).st 0).isByte ∧ ((octetsM 5).st 1).kind = .dfa 0 (.const 5) none := by
  simp [State.isByte, octetsM, Machine.st]

/-- a two-byte element (`words`) under a limit that cuts it in half: the sub-machine stops in a
non-terminal state (`NonTerminal`) -/
def wordM : Machine :=
  [ { kind := .input, term := true },
    { kind := .input, edges := [(.any, [.plain (some 0)])] },
    { kind := .dfa 1 (.const 2) none, term := true, limit := .const 3 } ]

example : errOf (runTop wordM 40 2 { src := { rest := [1, 2, 3, 4, 5] } }) = some (.nonterminal, 3) := by
  decide +kernel

/-! ### finding: an unrecognized CPF item was not confined to its length (repaired by a `fix:`)

One CPF item as the library parses it: `type_id` (UINT), `length` (UINT), then - for a type the
library does not recognize - the item's octets.  `fixed = false` is the code before the `fix:`
commit (a self-looping `octets` state with no limit: "just parse remainder"), `fixed = true` the
repaired code (`octets(repeat='.length')`).
0 byte leaf, 1 type_id -> field 0, 2 length -> field 1, 3 done, 4 unrecognized, 5 the item dfa -/
def cpfItem (fixed : Bool) : Machine :=
  [ { kind := .input, term := true },
    { kind := .dfa 0 (.const 2) (some 0), edges := [(.any, [.plain (some 2)])] },
    { kind := .dfa 0 (.const 2) (some 1),
      edges := [(.eps, [.guard (.eq 1 0) (some 3), .plain (some 4)])] },
    { kind := .null, term := true },
    if fixed then { kind := .dfa 0 (.field 1) none, term := true }
    else { kind := .dfa 0 .none none, term := true, edges := [(.any, [.plain (some 4)])] },
    { kind := .dfa 1 .none none, term := true } ]

/-- an item of type 0x9999 with length 2 (`AA BB`), followed by three octets of the enclosing
grammar: the item ends after 6 octets -/
def cpfItemInput : World := { src := { rest := [0x99, 0x99, 2, 0, 0xAA, 0xBB, 0x11, 0x22, 0x33] } }

/-- **The code before the fix read past the item's length** (all 9 octets: 3 beyond the boundary
declared by the length field it had just parsed) - the replay used against the implementation. -/
theorem cpfItemOld_overreads :
    sentOf (runTop (cpfItem false) 60 5 cpfItemInput) = some (9, none, true) := by
  decide +kernel

/-- the repaired item parser stops at the boundary and leaves `11 22 33` -/
theorem cpfItem_confined :
    sentOf (runTop (cpfItem true) 60 5 cpfItemInput) = some (6, some 0x11, true) := by
  decide +kernel

/-- repeat 0: nothing consumed; the dfa reports terminal because `current` is still the
(terminal) state the constructor left there -/
example : sentOf (runTop [ { kind := .input, term := true },
      { kind := .dfa 0 (.const 0) none, term := true } ] 40 1 { src := { rest := [1, 2] } })
    = some (0, some 1, true) := by
  decide +kernel

/-- hypotheses of `run_limit_closed` are satisfiable: the `seen` set a delegate starts a cycle with -/
example (w : World) (t : Option Nat) : CrumbsLe (some [w.crumb t]) w.sent :=
  CrumbsLe.singleton w t

end Cpppo.Engine
