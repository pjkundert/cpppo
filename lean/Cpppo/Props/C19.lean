import Cpppo.Proofs.Merge
import Cpppo.Proofs.Poll
import Cpppo.Generated.Tables

/-!
# C19 — Merging register ranges never drops a requested register

Property theorems about the model `Cpppo.Merge.merge` / `shatter` (the running length is `max`ed), for
every configuration with positive limits and positive bank size, every finite list of ranges, every
reach and every limit.  `mergeOld` (the running length is assigned) violates coverage on a concrete
witness.
-/
namespace Cpppo.Merge

/-- configuration well-formedness (proved for the extracted constants: `generated_cfg_wf`) -/
def Cfg.WF (cfg : Cfg) : Prop := 0 < cfg.coil ∧ 0 < cfg.reg ∧ 0 < cfg.block

instance (cfg : Cfg) : Decidable cfg.WF := by unfold Cfg.WF; infer_instance

/-- the limit that applies to pieces cut from a block starting at `a` -/
def applicableLimit (cfg : Cfg) (a : Nat) (lim : Option Nat) : Nat := effLimit cfg.coil cfg.reg a lim

/-- **Splitting a range covers it exactly with consecutive pieces of at most the limit.** -/
theorem shatter_tiles (cfg : Cfg) (h : cfg.WF) (a c : Nat) (lim : Option Nat) :
    Consec a (shatter cfg a c lim) (a + c)
    ∧ (∀ r ∈ shatter cfg a c lim, 1 ≤ r.2 ∧ r.2 ≤ applicableLimit cfg a lim)
    ∧ (∀ x, Covers (shatter cfg a c lim) x ↔ a ≤ x ∧ x < a + c) := by
  have ⟨hc, hle⟩ := shatterGo_tiles (effLimit_pos (a := a) (lim := lim) h.1 h.2.1) a c
  exact ⟨hc, fun r hr => ⟨(hc.mem r hr).2.2, hle r hr⟩, hc.covers_iff⟩

/-- a register requested by some input range -/
def Requested (rs : List Range) (x : Nat) : Prop := ∃ r ∈ rs, InRange r x

/-- `merge` refuses exactly the empty input (Python: `next()` on an empty iterator). -/
theorem merge_none_iff (cfg : Cfg) (rs : List Range) (reach : Nat) (lim : Option Nat) :
    merge cfg rs reach lim = none ↔ rs = [] := by
  unfold merge mergeWith blocksOf
  constructor
  · intro h
    split at h
    · rename_i hs -- the sorted input is empty
      have := (sortRanges_perm rs).length_eq
      rw [hs] at this; simpa using this.symm
    · simp at h
  · rintro rfl; simp [sortRanges]

section
variable (cfg : Cfg) (hcfg : cfg.WF) (rs : List Range) (reach : Nat) (lim : Option Nat)
  (out : List Range) (hout : merge cfg rs reach lim = some out)
include hout

include hcfg

/-- **The union of the output contains every requested register.** -/
theorem merge_covers : ∀ x, Requested rs x → Covers out x := by
  obtain ⟨b, l, rest, hperm, hsorted, rfl⟩ := mergeWith_some hout
  intro x ⟨r, hr, hrx⟩
  obtain ⟨s, hs, hsx⟩ := sweep_covers hsorted ⟨r, hperm.mem_iff.mpr hr, hrx⟩
  obtain ⟨p, hp, hpx⟩ := ((shatter_tiles cfg hcfg s.1 s.2 lim).2.2 x).mpr hsx
  exact ⟨p, List.mem_flatMap.mpr ⟨s, hs, hp⟩, hpx⟩

/-- **Output ranges are sorted by address and pairwise disjoint, and none is empty**
(inputs confined to a bank). -/
theorem merge_sorted_disjoint (hbank : ∀ r ∈ rs, InBank cfg.block r) :
    out.Pairwise (fun r q => r.1 + r.2 ≤ q.1) ∧ ∀ r ∈ out, 1 ≤ r.2 := by
  obtain ⟨b, l, rest, hperm, hsorted, rfl⟩ := mergeWith_some hout
  have hp := sweep_disjoint (fixed := true) (reach := reach) hsorted hcfg.2.2
    fun q hq => hbank q (hperm.mem_iff.mp hq)
  have tiles := fun s : Range => (shatter_tiles cfg hcfg s.1 s.2 lim).1
  constructor
  · rw [List.pairwise_flatMap]
    refine ⟨fun s _ => (tiles s).pairwise, hp.imp ?_⟩
    intro s t hst x hx y hy
    have h1 := (tiles s).mem x hx
    have h2 := (tiles t).mem y hy
    omega
  · intro r hr
    obtain ⟨s, _, hrs⟩ := List.mem_flatMap.mp hr
    exact ((tiles s).mem r hrs).2.2

/-- **Each output range is no longer than the applicable limit and confined to one bank.** -/
theorem merge_limit_bank (hbank : ∀ r ∈ rs, InBank cfg.block r) :
    ∀ r ∈ out, InBank cfg.block r ∧
      ∃ a, a / cfg.block = r.1 / cfg.block ∧ r.2 ≤ applicableLimit cfg a lim := by
  obtain ⟨b, l, rest, hperm, hsorted, rfl⟩ := mergeWith_some hout
  intro r hr
  obtain ⟨s, hs, hrs⟩ := List.mem_flatMap.mp hr
  have ht := shatter_tiles cfg hcfg s.1 s.2 lim
  have hin := ht.1.mem r hrs
  -- r ⊆ s ⊆ one bank, and r is non-empty, so r's own bank is s's bank
  have ⟨hdiv, hrb⟩ := (sweep_inBank hsorted (fun q hq => hbank q (hperm.mem_iff.mp hq)) s hs).sub
    hcfg.2.2 hin.1 hin.2.1 hin.2.2
  exact ⟨hrb, s.1, hdiv, (ht.2.1 r hrs).2⟩

/-- **The output contains no register that is not within the reach distance of a requested one**
(input ranges non-empty). -/
theorem merge_tight (hne : ∀ r ∈ rs, 1 ≤ r.2) :
    ∀ x, Covers out x → Near (Requested rs) (effReach reach) x := by
  obtain ⟨b, l, rest, hperm, hsorted, rfl⟩ := mergeWith_some hout
  have key := sweep_tight (fixed := true) (block := cfg.block) (reach := reach) (Req := Requested rs) hsorted
    fun q hq => ⟨hne q (hperm.mem_iff.mp hq), fun y hy => ⟨q, hperm.mem_iff.mp hq, hy⟩⟩
  intro x ⟨p, hp, hpx⟩
  obtain ⟨s, hs, hps⟩ := List.mem_flatMap.mp hp
  have := (shatter_tiles cfg hcfg s.1 s.2 lim).1.mem p hps
  exact key s hs x ⟨Nat.le_trans this.1 hpx.1, Nat.lt_of_lt_of_le hpx.2 this.2.1⟩

end

/-! ### Non-vacuity and witnesses -/

def cfg0 : Cfg := {}

example : cfg0.WF := by decide

/-- hypotheses are satisfiable on a non-trivial input, and `merge` produces an answer -/
example : merge cfg0 [(10, 20), (12, 2), (40001, 3), (34, 1)] 5 (some 7)
    = some [(10, 7), (17, 7), (24, 7), (31, 4), (40001, 3)] := by decide +kernel

example : ∀ r ∈ [((10 : Nat), (20 : Nat)), (12, 2), (40001, 3), (34, 1)],
    InBank cfg0.block r ∧ 1 ≤ r.2 := by simp [InBank, cfg0]

/-- The code before the `fix:` commit drops registers 14..29 of the nested input
`[(10,20),(12,2)]` (the replay used against the implementation). -/
theorem mergeOld_drops_register :
    mergeOld cfg0 [(10, 20), (12, 2)] 1 none = some [(10, 4)] ∧
    Requested [(10, 20), (12, 2)] 20 ∧ ¬ Covers [(10, 4)] 20 := by
  refine ⟨by decide +kernel, ⟨(10, 20), by simp, by simp [InRange]⟩, ?_⟩
  simp [Covers, InRange]

/-- With empty (zero-count) input ranges tightness does not hold: the hypothesis of `merge_tight`
is needed (a zero-count range extends the running block without requesting a register). -/
theorem tight_needs_nonempty :
    merge cfg0 [(10, 1), (14, 0), (18, 0), (22, 0)] 5 none = some [(10, 12)] := by decide +kernel

/-- the configuration extracted from the live source satisfies the theorems' hypothesis -/
theorem generated_cfg_wf :
    ({ coil := Generated.shatterCoilLimit, reg := Generated.shatterRegLimit,
       block := Generated.mergeBlock } : Cfg).WF := by decide
end Cpppo.Merge

/-!
## The poll cycle built on `merge` (`poller_modbus._poller`, `_read`, `_store`)

One turn of the polling loop polls exactly the merged ranges of the known addresses.  For every bank
table in which no two Modbus functions share a 10000-block (checked for the table regenerated from the
live `_read`), every reach, every device and every prior state:
-/
namespace Cpppo.Poll
open Cpppo.Merge

/-- the register kinds whose transfer limit is the coil limit: banks of bits lie inside the address
ranges `shatter` counts as bits, banks of words outside them -/
def BitAddr (a : Nat) : Prop := (1 ≤ a ∧ a ≤ 9999) ∨ (10001 ≤ a ∧ a ≤ 19999) ∨ (100001 ≤ a ∧ a ≤ 165536)

instance (a : Nat) : Decidable (BitAddr a) := by unfold BitAddr; infer_instance

def BanksLimitOK (banks : List Bank) : Prop :=
  ∀ e ∈ banks, if e.2.2.1 ≤ 1
    then (1 ≤ e.1 ∧ e.2.1 ≤ 9999) ∨ (10001 ≤ e.1 ∧ e.2.1 ≤ 19999) ∨ (100001 ≤ e.1 ∧ e.2.1 ≤ 165536)
    else (e.2.1 < 1 ∨ 9999 < e.1) ∧ (e.2.1 < 10001 ∨ 19999 < e.1) ∧ (e.2.1 < 100001 ∨ 165536 < e.1)

instance (banks : List Bank) : Decidable (BanksLimitOK banks) := by unfold BanksLimitOK; infer_instance

/-- at a valid address `shatter`'s default limit is the transfer limit of the address's function: the
address lies, with its whole bank, inside or outside the ranges `shatter` counts as bits -/
theorem defaultLimit_of_translate {banks : List Bank} (hlim : BanksLimitOK banks) {s k o : Nat}
    (hs : translate banks s = some (k, o)) {coil reg : Nat} :
    defaultLimit coil reg s = if k ≤ 1 then coil else reg := by
  obtain ⟨e, he, hin, rfl, _⟩ := translate_some hs
  have inside : ∀ {a b}, a ≤ e.1 ∧ e.2.1 ≤ b → a ≤ s ∧ s ≤ b :=
    fun h => ⟨Nat.le_trans h.1 hin.1, Nat.le_trans hin.2 h.2⟩
  have outside : ∀ {a b}, e.2.1 < a ∨ b < e.1 → ¬(a ≤ s ∧ s ≤ b) := by omega
  have hl := hlim e he
  unfold defaultLimit
  split at hl
  · rename_i hk -- a bank of bits
    rw [if_pos hk, if_pos (hl.imp inside (Or.imp inside inside))]
  · rename_i hk -- a bank of words
    rw [if_neg hk, if_neg (not_or.mpr ⟨outside hl.1, not_or.mpr ⟨outside hl.2.1, outside hl.2.2⟩⟩)]

section
variable (banks : List Bank) (cfg : Cfg) (hcfg : cfg.WF) (reach : Nat) (dev : Dev) (st : PState)

/-- **A poll cycle stores only known addresses: it neither creates nor drops one.** -/
theorem cycle_keys : (pollCycle banks cfg reach dev st).data.map (·.1) = st.data.map (·.1) := by
  fun_cases pollCycle banks cfg reach dev st
  · rfl -- dormant
  · exact fold_keys banks dev _ _

include hcfg

/-- **Every known register is polled by exactly the merged range that contains it: afterwards it holds the
device's value for its own address (function and offset of `_read`'s translation), or - when the read of
that range failed - what it held before.** -/
theorem cycle_value (hwf : BanksWF cfg.block banks) (hkeys : KeysValid banks st.data)
    {x k o : Nat} {v : Option Nat} (hx : lookup st.data x = some v) (ht : translate banks x = some (k, o)) :
    ∃ rngs r, merge cfg (keys st.data) reach none = some rngs ∧ r ∈ rngs ∧ InRange r x ∧
      lookup (pollCycle banks cfg reach dev st).data x =
        some (if (readRange banks dev r).isSome then some (dev.val k o) else v) := by
  obtain ⟨kv, hkv, rfl⟩ := lookup_mem hx
  have hkey : (kv.1, 1) ∈ keys st.data := List.mem_map.mpr ⟨kv, hkv, rfl⟩
  fun_cases pollCycle banks cfg reach dev st with
  | case1 hm => -- dormant: impossible, `x` is a known address
    rw [(merge_none_iff cfg _ reach none).mp hm] at hkey
    nomatch hkey
  | case2 rngs hm => -- the cycle polls `rngs`
    obtain ⟨r, hr, hrx⟩ := merge_covers cfg hcfg _ reach none rngs hm kv.1 ⟨_, hkey, Nat.le_refl _, Nat.lt_succ_self _⟩
    have hbank : ∀ q ∈ keys st.data, InBank cfg.block q := fun q hq => by
      obtain ⟨kv, _, rfl⟩ := List.mem_map.mp hq
      exact (Nat.div_lt_iff_lt_mul hcfg.2.2).mp (Nat.lt_succ_self _)
    have hpw := (merge_sorted_disjoint cfg hcfg _ reach none rngs hm hbank).1
    refine ⟨rngs, r, hm, hr, hrx, ?_⟩
    rw [fold_lookup_in banks dev rngs _ hpw r hr _ hrx v hx]
    cases hrd : readRange banks dev r with
    | none => simp
    | some vals =>
      obtain ⟨h1, k', off, hcell, _⟩ := piece_translate hcfg.1 hcfg.2.1 hwf hkeys hm r hr
      have hlt : kv.1 - r.1 < r.2 := Nat.sub_lt_left_of_lt_add hrx.1 hrx.2
      have hxt := hcell _ hlt
      rw [Nat.add_sub_cancel' hrx.1, ht] at hxt
      obtain ⟨rfl, rfl⟩ := Prod.mk.inj (Option.some.inj hxt)
      obtain rfl := readRange_eq (hcell 0 h1) hrd
      simp [cells, hlt]

/-- **With a device that answers, one cycle brings every known register up to date, and the poller is online.** -/
theorem cycle_fresh (hwf : BanksWF cfg.block banks) (hkeys : KeysValid banks st.data)
    (hdev : ∀ k o, dev.bad k o = false)
    {x k o : Nat} {v : Option Nat} (hx : lookup st.data x = some v) (ht : translate banks x = some (k, o)) :
    lookup (pollCycle banks cfg reach dev st).data x = some (some (dev.val k o))
    ∧ (pollCycle banks cfg reach dev st).online = true
    ∧ (pollCycle banks cfg reach dev st).failing = [] := by
  obtain ⟨rngs, r, hm, hr, hrx, hval⟩ := cycle_value banks cfg hcfg reach dev st hwf hkeys hx ht
  have hall : ∀ q ∈ rngs, (readRange banks dev q).isSome = true := by
    intro q hq
    obtain ⟨h1, k', off, hcell, _⟩ := piece_translate hcfg.1 hcfg.2.1 hwf hkeys hm q hq
    rw [readRange_some (hcell 0 h1) (fun i _ => hdev _ _)]; rfl
  -- every range is read, none refused
  obtain ⟨hpolling, hfailing⟩ := fold_lists banks dev rngs (st.data, [], [])
  rw [List.filter_eq_self.mpr hall] at hpolling
  rw [List.filter_eq_nil_iff.mpr fun q hq => by simp [Option.isSome_iff_ne_none.mp (hall q hq)]] at hfailing
  refine ⟨by rw [hval, hall r hr]; rfl, ?_, ?_⟩
  · simp only [pollCycle, hm, hpolling, List.nil_append, Bool.not_eq_true']
    exact List.isEmpty_eq_false_iff.mpr (List.ne_nil_of_mem hr)
  · simp only [pollCycle, hm, hfailing, List.nil_append]

/-- **Every request a cycle puts on the wire is non-empty, addresses one Modbus function only (each of its
cells is the translation of a valid address of that function), and is no longer than that function's
transfer limit.** -/
theorem cycle_requests_ok (hwf : BanksWF cfg.block banks) (hlim : BanksLimitOK banks)
    (hkeys : KeysValid banks st.data) :
    ∀ q ∈ requests banks cfg reach st, 1 ≤ q.2.2 ∧ q.2.2 ≤ (if q.1 ≤ 1 then cfg.coil else cfg.reg) ∧
      ∃ a, translate banks a = some (q.1, q.2.1) ∧
        ∀ i, i < q.2.2 → translate banks (a + i) = some (q.1, q.2.1 + i) := by
  intro q
  fun_cases requests banks cfg reach st with
  | case1 => nofun -- no request
  | case2 rngs hm =>
    simp only [List.mem_filterMap, Option.map_eq_some_iff]
    rintro ⟨r, hr, ko, hko, rfl⟩
    obtain ⟨h1, k, off, hcell, s, o, hs, hle⟩ := piece_translate hcfg.1 hcfg.2.1 hwf hkeys hm r hr
    have h0 : translate banks r.1 = some (k, off) := hcell 0 h1
    obtain rfl : (k, off) = ko := Option.some.inj (h0.symm.trans hko)
    rw [defaultLimit_of_translate hlim hs] at hle
    exact ⟨h1, hle, r.1, h0, hcell⟩

end

/-! ### tie to the live code and non-vacuity -/

/-- the table regenerated from `poller_modbus._read` by scanning every address satisfies the hypotheses -/
theorem generated_banks_wf : BanksWF Generated.mergeBlock Generated.modbusReadBanks := by decide

theorem generated_banks_limit_ok : BanksLimitOK Generated.modbusReadBanks := by decide

/-- only coils and holding registers are writable, at the same offsets as they are read -/
theorem generated_write_banks :
    ∀ e ∈ Generated.modbusWriteBanks, e ∈ Generated.modbusReadBanks ∧ (e.2.2.1 = 0 ∨ e.2.2.1 = 2) := by decide

def demoDev : Dev := { val := fun k o => 1000 * k + o, bad := fun k o => k == 3 && o == 7 }
def demoState : PState := { data := [(40003, none), (1, some 5), (40001, none), (30008, some 9), (3, none), (30001, none)] }

example : KeysValid Generated.modbusReadBanks demoState.data := by
  intro kv hkv
  simp only [demoState, List.mem_cons, List.not_mem_nil, or_false] at hkv
  rcases hkv with rfl | rfl | rfl | rfl | rfl | rfl <;> exact ⟨_, _, rfl⟩

/-- a cycle on a concrete state: two coils and two holding registers come back fresh through one request each,
the input registers 30001..30008 travel in one request that fails (cell 7 is bad) and keep what they held -/
example : (pollCycle Generated.modbusReadBanks cfg0 100 demoDev demoState).data
      = [(40003, some 2002), (1, some 0), (40001, some 2000), (30008, some 9), (3, some 2), (30001, none)]
    ∧ (pollCycle Generated.modbusReadBanks cfg0 100 demoDev demoState).polling = [(1, 3), (40001, 3)]
    ∧ (pollCycle Generated.modbusReadBanks cfg0 100 demoDev demoState).failing = [(30001, 8)]
    ∧ requests Generated.modbusReadBanks cfg0 100 demoState = [(0, 0, 3), (3, 0, 8), (2, 0, 3)] := by decide +kernel

end Cpppo.Poll
