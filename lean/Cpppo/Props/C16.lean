import Cpppo.Proofs.Dotdict
import Cpppo.Proofs.DotdictText
import Cpppo.Proofs.DotdictKeys
import Cpppo.Proofs.DotdictHeap

/-!
# C16 — dotdict behaves as a tree of nested mappings addressed by dotted paths

Property theorems about the model `Cpppo.Dotdict` (`Model/Dotdict.lean`), which mirrors `dotdict.py` as it
is (with the two applied `fix:` commits: reserved names refused for intermediate levels, `__copy__` copies
the mappings held in lists).  The behaviour before those commits is kept (`fixReserved := false`,
`Heap.copyObj false`) and shown to violate the property on a witness.  One defect of the code as it is is a
**known finding**: a key that reduces to one leading dot and a single name (`'.c'`) is resolved to that name
twice.  The theorems that it touches are stated in full (`ResolveNormal`, `DotdotAddressesParent`,
`LeadingDotsIgnored`), proved as `…_partial` under the decidable hypothesis `reducesToDotName key = false`,
proved in full for the alternative `_resolve` (`…_repaired`, `fixResolve := true`), and refuted for the code
as it is on the witness (`…_fails`, `leading_dot_single_component`).

Layers:
* text: `chain` iterates `_resolve` as the nested `target[rest]` calls do; `resolve_normal_partial` says it
  computes the stack meaning of the dotted path (`SKey.path`).
* tree: `getK`/`setK`/`delK`/`popK`/… over the resolved segments; the theorems below hold for every
  tree, every segment list satisfying the decidable `GoodSeg`, every value.

Quantifiers: all trees, all keys (`SKey`: any number of leading dots, any number of components, any run
of dots after each), all segment paths, all values, all operation sequences — no bound on sizes.
-/
namespace Cpppo.Dotdict

deriving instance DecidableEq for Except

/-- the code as it is: reserved names read from the live class (`dotdict.__invalid_keys__`),
`_resolve` with its stale `rest` (`fixResolve = false`), reserved names refused for intermediate levels -/
def liveCfg : Cfg := { reserved := Generated.dotdictInvalidKeys }

/-- `Generated.dotdictInvalidKeys` spelt as characters.  The kernel is slow at `String.toList`, and every
`isReserved liveCfg _` walks the whole table: the witnesses and examples below that evaluate an assignment
rewrite the table (`liveCfg_chars`) before they are decided, so that its strings are unpacked once, here. -/
def reservedChars : List Name :=
  [['c', 'l', 'e', 'a', 'r'], ['c', 'o', 'p', 'y'], ['g', 'e', 't'], ['s', 'e', 't'],
  ['i', 't', 'e', 'm', 's'], ['i', 't', 'e', 'r', 'i', 't', 'e', 'm', 's'],
  ['i', 't', 'e', 'r', 'k', 'e', 'y', 's'], ['i', 't', 'e', 'r', 'v', 'a', 'l', 'u', 'e', 's'],
  ['l', 'i', 's', 't', 'i', 't', 'e', 'm', 's'], ['l', 'i', 's', 't', 'k', 'e', 'y', 's'],
  ['l', 'i', 's', 't', 'v', 'a', 'l', 'u', 'e', 's'], ['k', 'e', 'y', 's'], ['v', 'a', 'l', 'u', 'e', 's'],
  ['p', 'o', 'p'], ['p', 'o', 'p', 'i', 't', 'e', 'm'], ['s', 'e', 't', 'd', 'e', 'f', 'a', 'u', 'l', 't'],
  ['u', 'p', 'd', 'a', 't', 'e']]

theorem dotdictInvalidKeys_chars : Generated.dotdictInvalidKeys = reservedChars := by decide +kernel

theorem liveCfg_chars : liveCfg = { reserved := reservedChars } := by
  rw [← dotdictInvalidKeys_chars]; rfl

/-- the alternative in which `_resolve` clears `rest` (not applied: the library relies on `'.name'`
keys being written and read through the same detour) -/
def repairedCfg : Cfg := { liveCfg with fixResolve := true }

/-! ## 1. `'..'` components address the parent level

`k.path` is computed by the stack walk `go`: a component is pushed, a run of `d` dots after it pops
`d - 1` levels (never above the root), leading dots are ignored; a path that ends at the root is
refused with `KeyError`. -/

/-- **Full statement**: `_resolve`, iterated as the nested calls do, yields exactly the levels the
dotted path means, for every key structure whose components are proper texts. -/
def ResolveNormal (fixed : Bool) : Prop :=
  ∀ k : SKey, k.WF → k.render ≠ [] → chain fixed k.render = k.path

/-- **Proved for the code as it is, except for keys that reduce to one leading dot and a single name**
(`reducesToDotName`, a decidable predicate on the key text: after the `'..'` loop the text is `.name`). -/
theorem resolve_normal_partial (k : SKey) (hw : k.WF) (hne : k.render ≠ [])
    (hok : reducesToDotName k.render = false) : chain false k.render = k.path :=
  chain_render false k hw hne (Or.inr hok)

/-- the full statement holds for the alternative `_resolve` that clears `rest` -/
theorem resolve_normal_repaired : ResolveNormal true :=
  fun k hw hne => chain_render true k hw hne (Or.inl rfl)

theorem wfc_c : WFC [("c".toList, 0)] := by simp [WFC, TextSeg, balanced, opens, closes]

/-- **The full statement is false for the code as it is** (known finding): `'.c'` is a well-formed key
(one leading dot, the component `c`) that means the level `c`, but resolves to `c` inside `c`. -/
theorem resolve_normal_fails : ¬ ResolveNormal false := by
  intro h
  have := h ⟨1, [("c".toList, 0)]⟩ wfc_c (by decide +kernel)
  exact absurd this (by decide +kernel)

/-- **Witness of the known finding on the operations**: with `a = 2` stored, `d['.a']` raises `KeyError`
and `'.a' in d` is `False` (the input replayed on the implementation by every run);
`d['.c'] = 2` creates `d.c.c`; the alternative `_resolve` gives `2` / `d.c`. -/
theorem leading_dot_single_component :
    chain false ".c".toList = ⟨["c".toList, "c".toList], none⟩ ∧
    getT liveCfg (.node [("a".toList, .leaf 2)]) ".a".toList = .error .key ∧
    containsT liveCfg (.node [("a".toList, .leaf 2)]) ".a".toList = .ok false ∧
    (setT liveCfg (.node []) ".c".toList (.tree (.leaf 2))).1
      = .node [("c".toList, .node [("c".toList, .leaf 2)])] ∧
    getT repairedCfg (.node [("a".toList, .leaf 2)]) ".a".toList = .ok (.leaf 2) ∧
    (setT repairedCfg (.node []) ".c".toList (.tree (.leaf 2))).1 = .node [("c".toList, .leaf 2)] := by
  simp only [repairedCfg, liveCfg_chars]
  decide +kernel

theorem render_ne {c : List (Name × Nat)} (hw : WFC c) (hne : c ≠ []) (ld : Nat) : SKey.render ⟨ld, c⟩ ≠ [] := by
  simp [SKey.render, renderComps_ne hw hne]

/-- lookup by key text is lookup along the meaning of the key (the two layers compose) -/
theorem lookup_by_meaning_partial (cfg : Cfg) (t : Tree) (k : SKey) (hw : k.WF) (hne : k.render ≠ [])
    (hok : cfg.fixResolve = true ∨ reducesToDotName k.render = false) :
    getT cfg t k.render = getK (rootKvs t) k.path.segs k.path.fin := by
  simp only [getT, chain_render cfg.fixResolve k hw hne hok]

/-- **Full statement**: `p.x..q` addresses what `p.q` addresses — a component followed by two dots is
skipped, whatever it is (it is not even looked up), at any depth and after any prefix. -/
def DotdotAddressesParent (fixed : Bool) : Prop :=
  ∀ (ld : Nat) (pre : List (Name × Nat)) (x : Name) (q : List (Name × Nat)), q ≠ [] →
    WFC (pre ++ (x, 2) :: q) → WFC (pre ++ q) →
    chain fixed (SKey.render ⟨ld, pre ++ (x, 2) :: q⟩) = chain fixed (SKey.render ⟨ld, pre ++ q⟩)

theorem dotdot_addresses_parent_partial (fixed : Bool) (ld : Nat) (pre : List (Name × Nat)) (x : Name)
    (q : List (Name × Nat)) (hq : q ≠ []) (hw1 : WFC (pre ++ (x, 2) :: q)) (hw2 : WFC (pre ++ q))
    (hok1 : fixed = true ∨ reducesToDotName (SKey.render ⟨ld, pre ++ (x, 2) :: q⟩) = false)
    (hok2 : fixed = true ∨ reducesToDotName (SKey.render ⟨ld, pre ++ q⟩) = false) :
    chain fixed (SKey.render ⟨ld, pre ++ (x, 2) :: q⟩) = chain fixed (SKey.render ⟨ld, pre ++ q⟩) := by
  rw [chain_render fixed ⟨ld, pre ++ (x, 2) :: q⟩ hw1 (render_ne hw1 (by simp) ld) hok1,
    chain_render fixed ⟨ld, pre ++ q⟩ hw2 (render_ne hw2 (by simp [hq]) ld) hok2]
  simp only [SKey.path, SKey.meaning]
  rw [go_append pre _ _ (by simp), go_append pre q _ hq, go_cons _ x 2 hq]
  rfl

theorem dotdot_addresses_parent_repaired : DotdotAddressesParent true :=
  fun ld pre x q hq hw1 hw2 =>
    dotdot_addresses_parent_partial true ld pre x q hq hw1 hw2 (Or.inl rfl) (Or.inl rfl)

/-- false for the code as it is: `'.x..c'` resolves to `c`, `'.c'` to `c` inside `c` -/
theorem dotdot_addresses_parent_fails : ¬ DotdotAddressesParent false := by
  intro h
  have := h 1 [] "x".toList [("c".toList, 0)] (by simp)
    (by simp [WFC, TextSeg, balanced, opens, closes]) wfc_c
  exact absurd this (by decide +kernel)

/-- **Full statement**: leading dots are ignored. -/
def LeadingDotsIgnored (fixed : Bool) : Prop :=
  ∀ (ld : Nat) (comps : List (Name × Nat)), WFC comps → comps ≠ [] →
    chain fixed (SKey.render ⟨ld, comps⟩) = chain fixed (SKey.render ⟨0, comps⟩)

theorem leading_dots_ignored_partial (fixed : Bool) (ld : Nat) (comps : List (Name × Nat)) (hw : WFC comps)
    (hne : comps ≠ [])
    (hok1 : fixed = true ∨ reducesToDotName (SKey.render ⟨ld, comps⟩) = false)
    (hok2 : fixed = true ∨ reducesToDotName (SKey.render ⟨0, comps⟩) = false) :
    chain fixed (SKey.render ⟨ld, comps⟩) = chain fixed (SKey.render ⟨0, comps⟩) := by
  rw [chain_render fixed ⟨ld, comps⟩ hw (render_ne hw hne ld) hok1,
    chain_render fixed ⟨0, comps⟩ hw (render_ne hw hne 0) hok2]
  rfl

theorem leading_dots_ignored_repaired : LeadingDotsIgnored true :=
  fun ld comps hw hne => leading_dots_ignored_partial true ld comps hw hne (Or.inl rfl) (Or.inl rfl)

/-- false for the code as it is: `'.c'` does not resolve as `'c'` does -/
theorem leading_dots_ignored_fails : ¬ LeadingDotsIgnored false := by
  intro h
  have := h 1 [("c".toList, 0)] wfc_c (by simp)
  exact absurd this (by decide +kernel)

/- non-vacuity: keys of the documentation and of the parsers (`'..length'`, `'...command'`); the
excluded class is small: leading dots before two or more components are fine -/
example : (SKey.mk 0 [("a".toList, 1), ("b".toList, 1), ("c".toList, 3), ("d".toList, 0)]).WF := by
  simp [SKey.WF, WFC, TextSeg, balanced, opens, closes]
example : reducesToDotName "a.b.c...d".toList = false ∧ reducesToDotName "..length".toList = false ∧
    reducesToDotName ".a.b".toList = false ∧ reducesToDotName "a.....a.b".toList = false ∧
    reducesToDotName ".c".toList = true ∧ reducesToDotName "a...c".toList = true := by decide +kernel
example : chain false "a.b.c...d".toList = ⟨["a".toList, "d".toList], none⟩ := by decide +kernel
example : chain false "..length".toList = ⟨["length".toList], none⟩ := by decide +kernel
example : chain false ".a.b".toList = ⟨["a".toList, "b".toList], none⟩ := by decide +kernel
example : chain false "l[1].x...l[0]".toList = ⟨["l[0]".toList], none⟩ := by decide +kernel
example : chain false "a.b..".toList = ⟨["a".toList], none⟩ := by decide +kernel
example : chain false "a..".toList = ⟨[], some .key⟩ := by decide +kernel

/-! ## 1b. index expressions: the first segment is split off where its brackets balance -/

/-- **`_resolve` splits an indexed first segment off bracket-balanced**, whatever dots its index
expression contains (the documented `d['a[a[0].b-1].b']`): the key is the piece `p0` (which contains
`[`), the dot-free pieces `ps` and then `tail`, all joined by single dots; the text assembled so far is
unbalanced before each of the pieces and balanced after the last.  Then `mine` is exactly that
balanced text and `rest` is `tail`. -/
theorem first_segment_bracket_balanced (fixed : Bool) (p0 : Name) (ps : List Name) (tail : Name)
    (h0 : p0 ≠ []) (h0d : '.' ∉ p0) (h0b : '[' ∈ p0) (hp : ∀ p ∈ ps, '.' ∉ p)
    (hu : ∀ i, i < ps.length → balanced (accAfter p0 (ps.take i)) = false)
    (hb : balanced (accAfter p0 ps) = true)
    (hdd : dotdotStep (p0 ++ '.' :: rjoin ps tail) = none) :
    resolve fixed (p0 ++ '.' :: rjoin ps tail) = .ok (accAfter p0 ps, some tail) := by
  have he : elimDotDot (p0 ++ '.' :: rjoin ps tail) = p0 ++ '.' :: rjoin ps tail := dotdotLoop_fix _ _ hdd
  simp only [resolve, he]
  obtain ⟨c, s, rfl⟩ := List.exists_cons_of_ne_nil h0
  have hc : c ≠ '.' := fun e => h0d (by simp [e])
  simp only [List.cons_append, lead, hc, if_false]
  rw [← List.cons_append, splitDot_seg (c :: s) _ h0d]
  simp only [h0b, if_true]
  rw [balance_pieces ps (c :: s) tail _ hp hu hb (by have := rjoin_length ps tail; omega)]
  have hne : ∀ (l : List Name) (a : Name), a ≠ [] → accAfter a l ≠ [] := fun l => by
    induction l with
    | nil => exact fun _ ha => ha
    | cons q r ih => exact fun a _ => ih (a ++ '.' :: q) (by simp)
  simp [Except.map, hne ps _ h0]

def tIdx : Tree := .node [("a".toList, .list [.node [("b".toList, .leaf 1), ("n".toList, .leaf 2)],
    .node [("b".toList, .leaf 11)], .node [("b".toList, .leaf 22)]]),
  ("sel".toList, .node [("idx".toList, .leaf 1)])]

/- non-vacuity: the documented key is an instance (`p0 = a[a[0]`, `ps = [b-1]]`, `tail = b`), and the
index expressions evaluate against the peer values -/
example : rjoin ["b-1]".toList] "b".toList = "b-1].b".toList ∧
    accAfter "a[a[0]".toList ["b-1]".toList] = "a[a[0].b-1]".toList ∧
    balanced "a[a[0]".toList = false ∧ balanced "a[a[0].b-1]".toList = true ∧
    dotdotStep "a[a[0].b-1].b".toList = none := by decide +kernel
example : chain false "a[a[0].b-1].b".toList = ⟨["a[a[0].b-1]".toList, "b".toList], none⟩ := by decide +kernel
example : getT liveCfg tIdx "a[a[0].b-1].b".toList = .ok (.leaf 1) ∧
    getT liveCfg tIdx "a[a[sel.idx-1].n].b".toList = .ok (.leaf 22) ∧
    getT liveCfg tIdx "sel.idx...a[a[0].b].b".toList = .ok (.leaf 11) ∧
    containsT liveCfg tIdx "a[a[0].n].b".toList = .ok true ∧
    getT liveCfg tIdx "a[a[0].zz].b".toList = .error .attr ∧
    getT liveCfg tIdx "a[zz].b".toList = .error .name ∧
    getT liveCfg tIdx "a[a[0].n+1].b".toList = .error .index ∧
    getT liveCfg tIdx "a[sel].b".toList = .error .type := by decide +kernel
example : (setT liveCfg tIdx "a[a[0].n].b".toList (.tree (.leaf 33))).2 = none ∧
    getT liveCfg (setT liveCfg tIdx "a[a[0].n].b".toList (.tree (.leaf 33))).1 "a[2].b".toList = .ok (.leaf 33) := by
  rw [liveCfg_chars]; decide +kernel

/-! ## 2. lookup after assignment -/

/-- **Looking up the path just assigned returns the stored value** (any tree, any depth, through
existing levels, created levels and list elements; `tv` is the value as stored: for a plain dict,
its conversion). -/
theorem get_set_same (cfg : Cfg) (segs : List Name) (kvs kvs' : Kvs) (tv : Tree)
    (hgood : ∀ m ∈ segs, GoodSeg m = true) (hne : segs ≠ [])
    (hset : setK cfg kvs segs none (.ok tv) = (kvs', none)) :
    getK kvs' segs none = .ok tv :=
  by obtain ⟨_, ⟨⟩, h⟩ := getK_setK_same cfg kvs segs _ kvs' hgood hne hset; exact h

/-- the same, by key text -/
theorem getT_setT_same (cfg : Cfg) (t : Tree) (key : Name) (v : PVal) (tv : Tree) (t' : Tree)
    (segs : List Name) (hc : chain cfg.fixResolve key = ⟨segs, none⟩) (hne : segs ≠ [])
    (hgood : ∀ m ∈ segs, GoodSeg m = true) (hv : conv cfg v = .ok tv)
    (hset : setT cfg t key v = (t', none)) : getT cfg t' key = .ok tv := by
  simp only [setT, hc, hv, Prod.mk.injEq] at hset
  obtain ⟨rfl, he⟩ := hset
  simp only [getT, hc, rootKvs]
  exact get_set_same cfg segs _ _ tv hgood hne (Prod.ext rfl he)

/-- **An assignment does not disturb an independent path** (`Indep`: the two paths part ways at an
entry of some level): whatever the assignment does — succeed, or fail half-way after creating
levels — a lookup of the other path succeeds exactly when it did, with the same value. -/
theorem get_set_other (cfg : Cfg) {p q : List Name} (h : Indep p q) (kvs : Kvs) (fin : Option Err)
    (cv : Except Err Tree) (v : Tree) (hp : ∀ m ∈ p, GoodSeg m = true) (hq : ∀ m ∈ q, GoodSeg m = true) :
    getK (setK cfg kvs p fin cv).1 q none = .ok v ↔ getK kvs q none = .ok v :=
  getK_setK_indep cfg h kvs fin cv v hp hq

def tSample : Tree := .node [("a".toList, .node [("b".toList, .leaf 1)]),
  ("l".toList, .list [.leaf 1, .node [("x".toList, .leaf 1)]])]

/- non-vacuity: an assignment through a '..' detour and a list element, and what it leaves alone -/
example : GoodSeg "l[1]".toList = true ∧ GoodSeg "y".toList = true := by decide +kernel
example : setT liveCfg tSample "l[1].q..y".toList (.pdict [("z.w".toList, .tree (.leaf 7))])
    = (.node [("a".toList, .node [("b".toList, .leaf 1)]),
        ("l".toList, .list [.leaf 1, .node [("x".toList, .leaf 1),
          ("y".toList, .node [("z".toList, .node [("w".toList, .leaf 7)])])]])], none) := by
  rw [liveCfg_chars]; decide +kernel
example : Indep ["l[1]".toList, "y".toList] ["a".toList, "b".toList] :=
  Indep.head (by decide +kernel)
example : Indep ["a".toList, "c".toList] ["a".toList, "b".toList] :=
  Indep.tail (Indep.head (by decide +kernel))

/-! ## 3. membership agrees with lookup -/

/-- **`key in d` is `True` exactly when `d[key]` succeeds, `False` exactly when it raises `KeyError`,
and raises the same exception in every other case.** -/
theorem contains_iff_get (cfg : Cfg) (t : Tree) (k : Name) :
    (containsT cfg t k = .ok true ↔ ∃ v, getT cfg t k = .ok v) ∧
    (containsT cfg t k = .ok false ↔ getT cfg t k = .error .key) ∧
    (∀ e, containsT cfg t k = .error e ↔ (getT cfg t k = .error e ∧ e ≠ .key)) := by
  unfold containsT
  split <;> simp_all

example : containsT liveCfg tSample "a.x..b".toList = .ok true ∧
    containsT liveCfg tSample "a.x".toList = .ok false ∧
    containsT liveCfg tSample "l[5]".toList = .error .index := by decide +kernel

/-! ## 4. key iteration -/

/-- **Every listed key looks up to the listed value and is a member** — for every dotdict whose raw
keys are identifiers, with lists of mappings of any length: an element of a list of ten or more
mappings is listed with a right-aligned index (`rows[ 3].v`), which reads back as the same element
(`parseSeg_idxSeg`, `parseIdx_padIdx`: the decimal digits `natDigits` writes are read back by `parseInt`). -/
theorem listed_key_looks_up (cfg : Cfg) (kvs : Kvs)
    (hw : wfK isIdent kvs = true) (k : Name) (v : Tree)
    (h : (k, v) ∈ items (.node kvs)) :
    getT cfg (.node kvs) k = .ok v ∧ containsT cfg (.node kvs) k = .ok true := by
  simp only [items, itemsK_eq, List.mem_map, Prod.mk.injEq, Prod.exists] at h
  obtain ⟨p, v', hm, rfl, rfl⟩ := h
  obtain ⟨hg, ht⟩ := itemsP_get p kvs v' hw hm
  have hc := chain_joinDots cfg.fixResolve p (itemsP_ne kvs p v' hm) ht
  have : getT cfg (.node kvs) (joinDots p) = .ok v' := by
    simp only [getT, hc, rootKvs, hg]
  exact ⟨this, by simp [containsT, this]⟩

/-- a right-aligned index, whatever the field width, reads back as the index -/
theorem padded_index_reads_back (w n : Nat) : parseIdx (padIdx w n) = some (n : Int) :=
  parseIdx_padIdx w n

/-- **Key iteration lists exactly the leaf paths**: `(key, v)` is yielded iff `key` is the dotted
form of a path that descends through non-empty levels by name and through non-empty lists of
mappings by `name[i]`, and ends at a value `v` that is neither (`LeafAt`). -/
theorem keys_are_leaf_paths (kvs : Kvs) {P : Name → Bool} (hw : wfK P kvs = true) (k : Name) (v : Tree) :
    (k, v) ∈ items (.node kvs) ↔ ∃ p, k = joinDots p ∧ LeafAt kvs p v := by
  simp only [items, itemsK_eq, List.mem_map, Prod.mk.injEq, Prod.exists, itemsP_leafAt _ _ _ hw]
  exact ⟨fun ⟨p, _, hl, hk, hv⟩ => ⟨p, hk.symm, hv ▸ hl⟩, fun ⟨p, hk, hl⟩ => ⟨p, v, hl, hk.symm, rfl⟩⟩

/-- the listed values are leaves: never a non-empty level, never a non-empty list of mappings -/
theorem listed_values_are_leaves (kvs : Kvs) {P : Name → Bool} (hw : wfK P kvs = true) (k : Name) (v : Tree)
    (h : (k, v) ∈ items (.node kvs)) : IsLeafVal v := by
  obtain ⟨p, _, hl⟩ := (keys_are_leaf_paths kvs hw k v).mp h
  exact leafAt_isLeaf hl

def tIter : Tree := .node [("a".toList, .node [("b".toList, .leaf 1), ("e".toList, .node [])]),
  ("l".toList, .list [.node [("x".toList, .leaf 1)], .node [], .node [("y".toList, .node [("z".toList, .leaf 2)])]]),
  ("m".toList, .list [.leaf 1, .node [("x".toList, .leaf 1)]])]

example : wfK isIdent (rootKvs tIter) = true := by decide +kernel

/-- eleven mappings in a list: the listed keys carry right-aligned indices and look up -/
def tRows : Tree := .node [("rows".toList, .list ((List.range 11).map fun i => .node [("v".toList, .leaf (.int (Int.ofNat i)))])),
  ("n".toList, .leaf .none)]

example : keys tRows = ["rows[ 0].v", "rows[ 1].v", "rows[ 2].v", "rows[ 3].v", "rows[ 4].v", "rows[ 5].v",
    "rows[ 6].v", "rows[ 7].v", "rows[ 8].v", "rows[ 9].v", "rows[10].v", "n"].map String.toList := by
  decide +kernel
example : getT liveCfg tRows "rows[ 3].v".toList = .ok (.leaf 3) ∧
    getT liveCfg tRows "rows[10].v".toList = .ok (.leaf 10) ∧
    getT liveCfg tRows "rows[03].v".toList = .error .oom := by decide +kernel

/-- a stored `None` is a value like any other: the path is in the tree, `setdefault` leaves it alone -/
example : containsT liveCfg tRows "n".toList = .ok true ∧ getT liveCfg tRows "n".toList = .ok (.leaf .none) ∧
    setdefaultT liveCfg tRows "n".toList (.tree (.leaf 5)) = (tRows, .ok (.leaf .none)) := by decide +kernel
example : keys tIter = ["a.b".toList, "a.e".toList, "l[0].x".toList, "l[2].y.z".toList, "m".toList] := by decide +kernel

/-! ## 5. deletion -/

/-- **Deleting a non-empty level is refused**: `KeyError`, and nothing changes. -/
theorem del_refuses_nonempty (cfg : Cfg) (segs : List Name) (kvs : Kvs) (x : Name × Tree) (sub : Kvs)
    (hgood : ∀ m ∈ segs, GoodSeg m = true) (hne : segs ≠ [])
    (hget : getK kvs segs none = .ok (.node (x :: sub))) :
    delK cfg kvs segs none = (kvs, some .key) := by
  induction segs generalizing kvs with
  | nil => exact absurd rfl hne
  | cons m rest ih =>
    have hgm := hgood m (by simp)
    rw [delK, getTop_nodot cfg kvs m (goodSeg_nodot hgm)]
    rcases getK_cons_ok hget with ⟨rfl, hs⟩ | ⟨hrest, s, hs, hg⟩
    · simp [hs]
    · simp only [hs, hrest, false_and, if_false, ih s (List.forall_mem_cons.mp hgood).2 hrest hg,
        segPut_same kvs m _ (goodSeg_lit hgm) hs]

/-- **Deleting a leaf or an empty level removes it**: the deletion succeeds and the path is absent
afterwards (`KeyError`). -/
theorem del_leaf_removes (cfg : Cfg) {P : Name → Bool} (segs : List Name) (kvs : Kvs) (v : Tree)
    (hw : wfK P kvs = true) (hgood : ∀ m ∈ segs, GoodSeg m = true)
    (hlast : ∀ l, segs.getLast? = some l → '[' ∉ l) (hne : segs ≠ [])
    (hget : getK kvs segs none = .ok v) (hv : ∀ x sub, v ≠ .node (x :: sub)) :
    ∃ kvs', delK cfg kvs segs none = (kvs', none) ∧ getK kvs' segs none = .error .key := by
  induction segs generalizing kvs with
  | nil => exact absurd rfl hne
  | cons m rest ih =>
    have hgm := hgood m (by simp)
    rw [delK, getTop_nodot cfg kvs m (goodSeg_nodot hgm)]
    rcases getK_cons_ok hget with ⟨rfl, hs⟩ | ⟨hrest, s, hs, hg⟩
    · -- the last segment is a plain key: its entry is erased
      have hb : '[' ∉ m := hlast m (by simp)
      have hl : lookupK m kvs = some v := by
        revert hs
        simp only [segGet, hb, if_false]
        cases lookupK m kvs <;> simp
      refine ⟨eraseK m kvs, ?_, ?_⟩
      · simp only [hs, and_self, if_true, hl] -- `hv` discharges the refusal branch of the `match` on `v`
      · rw [getK]
        simp [segGet, hb, lookupK_eraseK_same m hw]
    · obtain ⟨a, r, rfl⟩ := List.exists_cons_of_ne_nil hrest
      obtain ⟨s', hd, hg'⟩ := ih s (wfT_segGet hw hs) (List.forall_mem_cons.mp hgood).2
        (fun l hl => hlast l (by rwa [List.getLast?_cons_cons])) hrest hg
      refine ⟨segPut kvs m (.node s'), by simp [hs, hd], ?_⟩
      rw [getK, segGet_segPut kvs m _ _ (goodSeg_lit hgm) hs]
      simp [hg']

example : delT liveCfg tSample "a".toList = (tSample, some .key) := by decide +kernel
example : (delT liveCfg tSample "l[1].x".toList).2 = none ∧
    getT liveCfg (delT liveCfg tSample "l[1].x".toList).1 "l[1].x".toList = .error .key := by decide +kernel

/-- every level down to the last component exists, and the last component is not an entry of its level -/
def AbsentLast : Kvs → List Name → Prop
  | _, [] => False
  | kvs, [m] => lookupK m kvs = none
  | kvs, m :: c :: r => ∃ sub, lookupK m kvs = some (.node sub) ∧ AbsentLast sub (c :: r)

/-- **`pop( path, default )` of an absent entry of an existing level returns the default and leaves the
tree unchanged, at any depth** — a pop by dotted path is the pop of the level that holds the last
component (`AbsentLast`: every level down to the last component exists, the last component is not an
entry of its level; `.ok none` = "the default was returned"). -/
theorem pop_default_absent (segs : List Name) (kvs : Kvs) (h : AbsentLast kvs segs) :
    popK kvs segs none true = (kvs, .ok none) := by
  fun_induction AbsentLast kvs segs
  · exact h.elim -- no segment
  · simp [popK, h] -- the last segment
  · rename_i kvs m c r ih -- an existing level `m`, more segments follow
    obtain ⟨sub, hl, hs⟩ := h
    rw [popK]
    simp only [reduceCtorEq, false_and, if_false, hl, ih sub hs, insertK_same_val m _ kvs hl]

example : AbsentLast (rootKvs tSample) ["a".toList, "zz".toList] := ⟨_, rfl, rfl⟩
example : popT liveCfg tSample "a.zz".toList true = (tSample, .ok none) ∧
    popT liveCfg tSample "a.b.c...zz".toList true = (tSample, .ok none) ∧
    popT liveCfg tSample "a.zz".toList false = (tSample, .error .key) ∧
    popT liveCfg tSample "q.zz".toList true = (tSample, .error .key) := by decide +kernel

/-! ## 6. reserved method names are refused as keys -/

/-- **An assignment whose path has a reserved plain component is refused** (repaired code: also when
the component is an intermediate level). -/
theorem reserved_refused (cfg : Cfg) (hfix : cfg.fixReserved = true) : ∀ (segs : List Name) (kvs : Kvs)
    (cv : Except Err Tree), (∀ m ∈ segs, GoodSeg m = true) →
    (∃ m ∈ segs, '[' ∉ m ∧ isReserved cfg m = true) → (setK cfg kvs segs none cv).2 ≠ none :=
  fun segs kvs cv hgood hres => setK_reserved cfg hfix kvs segs none cv hgood hres

/-- a raw key that is not reserved -/
def notReserved (cfg : Cfg) (k : Name) : Bool := !isReserved cfg k

theorem keysOK_notReserved (cfg : Cfg) (segs : List Name) : KeysOK (notReserved cfg) cfg segs := by
  intro m _ hr _
  simp [notReserved, hr]

/-- **No operation sequence ever makes a reserved name a key of any level** (repaired code), whatever
the keys are — well-formed or not — as long as the trees handed in as values have none. -/
theorem no_reserved_key_ever (cfg : Cfg) (hfix : cfg.fixReserved = true) (ops : List Op) (t : Tree)
    (ht : wfRoot (notReserved cfg) t) (hops : ∀ op ∈ ops, OpOK (notReserved cfg) cfg op) :
    wfRoot (notReserved cfg) (run cfg t ops) :=
  wfRoot_run cfg hfix ops t ht hops

example : isReserved liveCfg "copy".toList = true ∧ isReserved liveCfg "__len".toList = true ∧
    isReserved liveCfg "length".toList = false := by rw [liveCfg_chars]; decide +kernel
example : (setT liveCfg (.node []) "a.copy".toList (.tree (.leaf 1))).2 = some .key ∧
    (setT liveCfg (.node []) "copy.a".toList (.tree (.leaf 1))) = (.node [], some .key) ∧
    (setT liveCfg (.node []) "b".toList (.pdict [("keys.x".toList, .tree (.leaf 1))])).2 = some .key := by
  rw [liveCfg_chars]; decide +kernel
/-- the hypotheses of `no_reserved_key_ever` hold for arbitrary key texts -/
example : OpOK (notReserved liveCfg) liveCfg (.set "a[0.copy]..x]".toList (.pdict [("copy.q".toList, .tree (.leaf 1))])) :=
  ⟨keysOK_notReserved _ _, by simp [valOK, itemsOK, keysOK_notReserved, wfT]⟩

/-- **Witness (code before `fix: C16-reserved-level`)**: `d['copy.x'] = 1` succeeds and makes `copy`
a key of the root. -/
theorem reservedOld_level :
    setT { liveCfg with fixReserved := false } (.node []) "copy.x".toList (.tree (.leaf 1))
      = (.node [("copy".toList, .node [("x".toList, .leaf 1)])], none) := by
  rw [liveCfg_chars]; decide +kernel

/-! ## 7. plain dictionaries become addressable levels -/

/-- **A plain dict that is assigned is stored as a level**: the lookup of the assigned path returns a
mapping level, namely the conversion of the dict … -/
theorem plain_dict_becomes_level (cfg : Cfg) (segs : List Name) (kvs kvs' : Kvs)
    (items : List (Name × PVal)) (hgood : ∀ m ∈ segs, GoodSeg m = true) (hne : segs ≠ [])
    (hset : setK cfg kvs segs none (conv cfg (.pdict items)) = (kvs', none)) :
    ∃ sub, conv cfg (.pdict items) = .ok (.node sub) ∧ getK kvs' segs none = .ok (.node sub) := by
  obtain ⟨tv, htv, hg⟩ := getK_setK_same cfg kvs segs _ kvs' hgood hne hset
  obtain ⟨sub, rfl⟩ := convItems_node cfg items [] tv (by simpa [conv] using htv)
  exact ⟨sub, htv, hg⟩

/-- … in which the dict's own (dotted) keys are addressable: the item assigned last is found at its
key, converted in turn. -/
theorem plain_dict_item_addressable (cfg : Cfg) (its : List (Name × PVal)) (k : Name) (v : PVal)
    (sub : Kvs) (segs : List Name) (hc : chain cfg.fixResolve k = ⟨segs, none⟩) (hne : segs ≠ [])
    (hgood : ∀ m ∈ segs, GoodSeg m = true)
    (h : conv cfg (.pdict (its ++ [(k, v)])) = .ok (.node sub)) :
    ∃ tv, conv cfg v = .ok tv ∧ getK sub segs none = .ok tv := by
  simp only [conv] at h
  obtain ⟨acc, _, hs, ⟨⟩⟩ := convItems_snoc cfg its k v [] _ h
  rw [hc] at hs
  exact getK_setK_same cfg acc segs _ _ hgood hne hs

example : conv liveCfg (.pdict [("c.d".toList, .tree (.leaf 2)), ("e".toList, .pdict [("f..g".toList, .tree (.leaf 3))])])
    = .ok (.node [("c".toList, .node [("d".toList, .leaf 2)]), ("e".toList, .node [("g".toList, .leaf 3)])]) := by
  rw [liveCfg_chars]; decide +kernel

/-! ## 8. the state is always a well-formed nested map -/

/-- raw keys as the property has them: identifiers that are not reserved -/
def goodName (cfg : Cfg) (k : Name) : Bool := isIdent k && !isReserved cfg k

/-- **Refinement invariant**: starting from a well-formed dotdict, after any sequence of
set/del/pop/setdefault/update operations (failed ones included) every level is a map — no key
twice — whose keys are non-reserved identifiers, recursively through lists; `OpOK` asks that the
segments an operation may store are such names (a decidable condition on the key text). -/
theorem run_is_nested_map (cfg : Cfg) (hfix : cfg.fixReserved = true) (ops : List Op) (t : Tree)
    (ht : wfRoot (goodName cfg) t) (hops : ∀ op ∈ ops, OpOK (goodName cfg) cfg op) :
    wfRoot (goodName cfg) (run cfg t ops) :=
  wfRoot_run cfg hfix ops t ht hops

example : wfRoot (goodName liveCfg) (.node []) := ⟨[], rfl, rfl⟩
example : KeysOK (goodName liveCfg) liveCfg (chain liveCfg.fixResolve "a.x..l[1].y".toList).segs := by
  rw [liveCfg_chars]; unfold KeysOK; decide +kernel

/-! ## 9. copies -/

/-- a raw key the constructor re-inserts unchanged -/
example : CopyKey liveCfg "abc".toList = true := by rw [liveCfg_chars]; decide +kernel

/-- **`copy.copy` / `copy.deepcopy` reproduce the tree** (repaired `__copy__`; both rebuild every
level through `__setitem__`).  In the value model the result shares nothing with the original by
construction; the statement with object identities is `copy_shares_nothing` below. -/
theorem copy_faithful (cfg : Cfg) (t : Tree) (h : wfT (CopyKey cfg) t = true) : copyT cfg t = .ok t :=
  copyT_ok cfg t h

example : wfT (CopyKey liveCfg) tIter = true := by rw [liveCfg_chars]; decide +kernel

open Heap in
/-- **Witness (code before `fix: C16-copy-list-levels`)**, with object identities: after
`c = copy.copy( d )` for `d = {a: [ {x: 1} ]}`, the assignment `c['a[0].x'] = 5` changes `d`;
with the repaired `__copy__` it does not. -/
theorem copyOld_shares_list_elements :
    let d0 : Tree := .node [("a".toList, .list [.node [("x".toList, .leaf 1)]])]
    let (h0, d) := alloc d0 []
    (let (h1, c) := copyObj false 8 h0 d
     (assign h1 c [.key "a".toList, .idx 0] "x".toList 5).map (fun h2 => (read 8 h2 d, read 8 h2 c))
       = some (.node [("a".toList, .list [.node [("x".toList, .leaf 5)]])],
               .node [("a".toList, .list [.node [("x".toList, .leaf 5)]])])) ∧
    (let (h1, c) := copyObj true 8 h0 d
     (assign h1 c [.key "a".toList, .idx 0] "x".toList 5).map (fun h2 => (read 8 h2 d, read 8 h2 c))
       = some (d0, .node [("a".toList, .list [.node [("x".toList, .leaf 5)]])])) := by
  decide +kernel

open Heap in
/-- **Copies are structurally independent** (repaired `__copy__`, with object identities): in every
closed heap, for every object `d` (a dotdict of any shape, with lists of dotdicts, nested lists, …),
`c = copy.copy( d )` reads exactly as `d` does, and after any assignment made through `c` — at any path
through levels and list elements — `d` still reads as before.  (`__deepcopy__` rebuilds the same cells:
every mapping and every list is new, ints are shared.) -/
theorem copy_shares_nothing (f : Nat) (h : Heap) (d : Nat) (hc : Closed h) (hd : d < h.length)
    (hf : fits f h d = true) :
    read f (copyObj true f h d).1 (copyObj true f h d).2 = read f h d ∧
    ∀ (path : List Step) (k : Name) (v : Int) (h2 : Heap),
      assign (copyObj true f h d).1 (copyObj true f h d).2 path k v = some h2 →
      ∀ g, read g h2 d = read g h d :=
  copy_independent f h d hc hd hf

open Heap in
/-- the hypotheses hold for a dotdict built in an empty heap (and the copy is not the same object) -/
example : (let (h0, d) := alloc tIter []
    closedB h0 = true ∧ d < h0.length ∧ fits 8 h0 d = true ∧ (copyObj true 8 h0 d).2 ≠ d ∧
    read 8 h0 d = tIter) := by decide +kernel

/-! ## tie to the extracted constants -/

theorem generated_reserved_names :
    "copy".toList ∈ Generated.dotdictInvalidKeys ∧ "keys".toList ∈ Generated.dotdictInvalidKeys ∧
    "update".toList ∈ Generated.dotdictInvalidKeys ∧ Generated.dotdictInvalidKeys.all isIdent = true := by
  rw [dotdictInvalidKeys_chars]; decide +kernel

end Cpppo.Dotdict
