import Cpppo.Proofs.Frag

/-!
# C04 — Fragmented transfers reassemble exactly and every fragment makes progress

About `Cpppo.Logix.tagAccess` (the model of `Logix.reply_elements` + the slice read / assignment that
Read/Write Tag Fragmented perform), for every tag with fixed-size elements (any positive element size),
every tag length, start index, element count and reply-size budget.

`transfer` is the client loop the property describes: issue Read Tag Fragmented at byte offset
`j * size`, advance `j` by the number of elements received, stop at status 0.
-/
namespace Cpppo.Logix

/-- a tag stored as a list: its length is the number of stored values (`Tag.Vector.len`) -/
def Tag.Vector (t : Tag) : Prop := t.scalar = false

theorem Tag.Vector.len {t : Tag} (hv : t.Vector) : t.len = t.vals.length := by
  rw [Tag.len, show t.scalar = false from hv]; rfl

/-- One Read Tag Fragmented at element offset `j` of the range `[index, index+n)`. -/
theorem read_fragment (tag : Tag) (hv : tag.Vector) (B index n j : Nat) (hs : 0 < tag.ty.size)
    (hfit : index + n ≤ tag.vals.length) (hj : j < n) :
    tagAccess tag B true index n (j * tag.ty.size) [] =
      .read (if n - j ≤ fragCount B tag.ty.size then 0 else 6)
            ((tag.vals.drop (index + j)).take (min (n - j) (fragCount B tag.ty.size))) := by
  rw [tagAccess_read, Nat.mul_div_cancel j hs, if_pos ⟨hv.len ▸ hfit, hj, Nat.mul_mod_left ..⟩]

/-- **Every fragment carries at least one whole element and at most the budget rounded up to a whole
element; status 6 exactly when more remains, status 0 exactly on the final fragment.** -/
theorem fragment_progress (tag : Tag) (hv : tag.Vector) (B index n j : Nat) (hs : 0 < tag.ty.size)
    (hfit : index + n ≤ tag.vals.length) (hj : j < n) :
    ∃ st vals, tagAccess tag B true index n (j * tag.ty.size) [] = .read st vals
      ∧ 1 ≤ vals.length ∧ vals.length ≤ fragCount B tag.ty.size
      ∧ (st = 6 ↔ j + vals.length < n) ∧ (st = 0 ↔ j + vals.length = n) := by
  refine ⟨_, _, read_fragment tag hv B index n j hs hfit hj, ?_⟩
  have hq := fragCount_pos B tag.ty.size
  generalize fragCount B tag.ty.size = q at hq ⊢
  -- the slice is not cut short by the end of the tag
  rw [List.length_take, List.length_drop, Nat.min_eq_left (by omega)]
  by_cases hlast : n - j ≤ q
  · rw [if_pos hlast, Nat.min_eq_left hlast]; omega
  · rw [if_neg hlast, Nat.min_eq_right (by omega)]; omega

/-- the budget bound in bytes: a fragment's payload is less than one element over the budget -/
theorem fragment_bytes_bound (B siz : Nat) (hs : 0 < siz) (hB : 1 ≤ B) :
    fragCount B siz * siz < B + siz := by
  unfold fragCount
  have h := Nat.div_mul_le_self (B + siz - 1) siz
  have h1 : 1 ≤ (B + siz - 1) / siz := (Nat.one_le_div_iff hs).mpr (by omega)
  rw [Nat.max_eq_left h1]
  omega

/-- the client loop: (status, elements) of every fragment -/
def transfer (tag : Tag) (B index n : Nat) : Nat → Nat → List (Nat × List Val)
  | 0, _ => []
  | fuel + 1, j =>
    match tagAccess tag B true index n (j * tag.ty.size) [] with
    | .read st vals => (st, vals) :: (if st = 6 then transfer tag B index n fuel (j + vals.length) else [])
    | _ => []

/-- **The concatenation of the fragments equals exactly the requested elements in order; all but the
last fragment have status 6 and the last has status 0.**  (fuel: any bound ≥ the remaining count) -/
theorem transfer_reassembles (tag : Tag) (hv : tag.Vector) (B index n : Nat) (hs : 0 < tag.ty.size)
    (hfit : index + n ≤ tag.vals.length) (fuel j : Nat) (hj : j < n) (hfuel : n - j ≤ fuel) :
    let frs := transfer tag B index n fuel j
    (frs.map (·.2)).flatten = (tag.vals.drop (index + j)).take (n - j)
    ∧ (∀ fr ∈ frs, 1 ≤ fr.2.length ∧ fr.2.length ≤ fragCount B tag.ty.size)
    ∧ frs.getLast?.map (·.1) = some 0
    ∧ (∀ fr ∈ frs.dropLast, fr.1 = 6) := by
  have hrf := fun j => read_fragment tag hv B index n j hs hfit
  have hq := fragCount_pos B tag.ty.size
  generalize fragCount B tag.ty.size = q at hrf hq ⊢
  induction fuel generalizing j with
  | zero => omega
  | succ fuel ih =>
    simp only [transfer, hrf j hj]
    by_cases hlast : n - j ≤ q
    · -- final fragment
      rw [if_pos hlast, Nat.min_eq_left hlast]
      refine ⟨List.append_nil _, ?_, rfl, nofun⟩
      intro fr hfr
      rw [List.mem_singleton.mp hfr, List.length_take, List.length_drop]
      omega
    · -- a full fragment, then the transfer from `j + q`
      have hlen : ((tag.vals.drop (index + j)).take q).length = q := by
        rw [List.length_take, List.length_drop]; omega
      rw [if_neg hlast, Nat.min_eq_right (Nat.le_of_not_ge hlast), if_pos rfl, hlen]
      obtain ⟨ih1, ih2, ih3, ih4⟩ := ih (j + q) (by omega) (by omega)
      have hne : transfer tag B index n fuel (j + q) ≠ [] := by
        intro h; rw [h] at ih3; cases ih3
      refine ⟨?_, List.forall_mem_cons.mpr ⟨by rw [hlen]; exact ⟨hq, q.le_refl⟩, ih2⟩, ?_, ?_⟩
      · rw [List.map_cons, List.flatten_cons, ih1, show n - j = q + (n - (j + q)) by omega, List.take_add,
          List.drop_drop, Nat.add_assoc]
      · rw [List.getLast?_cons_of_ne_nil hne]; exact ih3
      · rw [List.dropLast_cons_of_ne_nil hne]; exact List.forall_mem_cons.mpr ⟨rfl, ih4⟩

/-- **A byte offset inside an element is refused (0xFF / 0x2105), for reads and writes alike.** -/
theorem suboffset_refused (tag : Tag) (B : Nat) (isRead : Bool) (index n off : Nat) (w : List Val)
    (hoff : off % tag.ty.size ≠ 0) (hrd : isRead = true) :
    tagAccess tag B isRead index n off w = .refused := by
  subst hrd
  rw [tagAccess_read, if_neg fun h => hoff h.2.2]

/-- One Write Tag Fragmented carrying `w` at element offset `j`. -/
theorem write_fragment (tag : Tag) (hv : tag.Vector) (B index n j : Nat) (w : List Val)
    (hs : 0 < tag.ty.size) (hfit : index + n ≤ tag.vals.length) (hw : 1 ≤ w.length)
    (hj : j + w.length ≤ n) :
    tagAccess tag B false index n (j * tag.ty.size) w =
      .wrote { tag with vals := spliceAt tag.vals (index + j) w } := by
  rw [tagAccess_write, Nat.mul_div_cancel j hs, if_pos ⟨hv.len ▸ hfit, hw, hj⟩,
    show tag.scalar = false from hv]
  rfl

/-- a series of Write Tag Fragmented requests, each at the offset where the previous one ended -/
def writeAll (B index n : Nat) : Tag → List (List Val) → Nat → Option Tag
  | tag, [], _ => some tag
  | tag, w :: rest, j =>
    match tagAccess tag B false index n (j * tag.ty.size) w with
    | .wrote t' => writeAll B index n t' rest (j + w.length)
    | _ => none

/-- **A series of Write Tag Fragmented requests whose offsets tile a range stores exactly those values
there and nothing else** (everything outside `[index+j, index+j+total)` is untouched, the length and
the type stay). -/
theorem write_tiling (B index n : Nat) (tag : Tag) (hv : tag.Vector) (hs : 0 < tag.ty.size)
    (hfit : index + n ≤ tag.vals.length) (frs : List (List Val)) (j : Nat)
    (hne : ∀ w ∈ frs, 1 ≤ w.length) (hsum : j + frs.flatten.length ≤ n) :
    writeAll B index n tag frs j = some { tag with vals := spliceAt tag.vals (index + j) frs.flatten } := by
  induction frs generalizing tag j with
  | nil =>
    simp only [writeAll, List.flatten_nil, spliceAt, List.append_nil, List.length_nil, Nat.add_zero,
      List.take_append_drop]
  | cons w rest ih =>
    obtain ⟨hw, hne⟩ := List.forall_mem_cons.mp hne
    simp only [List.flatten_cons, List.length_append] at hsum
    simp only [writeAll, write_fragment tag hv B index n j w hs hfit hw (by omega)]
    have hl : (spliceAt tag.vals (index + j) w).length = tag.vals.length :=
      spliceAt_length _ _ _ (by omega)
    rw [ih { tag with vals := spliceAt tag.vals (index + j) w } hv hs (hl ▸ hfit)
      (j + w.length) hne (by omega)]
    simp only [List.flatten_cons]
    congr 2
    rw [← Nat.add_assoc]
    exact spliceAt_spliceAt _ _ _ _ (by omega)

/-- what "nothing else" means element-wise -/
theorem write_tiling_elements (l : List Val) (beg : Nat) (new : List Val) (k : Nat)
    (h : beg + new.length ≤ l.length) :
    (spliceAt l beg new)[k]? = if beg ≤ k ∧ k < beg + new.length then new[k - beg]? else l[k]? :=
  getElem?_spliceAt l beg new k h

/-! ### non-vacuity -/

def demoTag : Tag := { ty := .int, scalar := false, vals := (List.range 10).map fun k => Val.int (k : Nat) }

example : demoTag.Vector ∧ 0 < demoTag.ty.size ∧ 2 + 7 ≤ demoTag.vals.length :=
  ⟨rfl, by decide, by decide⟩

/-- budget 5 bytes, 2-byte elements: 3 per fragment; elements 2..8 arrive as 3+3+1 -/
example : (transfer demoTag 5 2 7 7 0).map (fun fr => (fr.1, fr.2.length)) = [(6, 3), (6, 3), (0, 1)] := by
  decide +kernel

example : ((transfer demoTag 5 2 7 7 0).map (·.2)).flatten = (demoTag.vals.drop 2).take 7 := by
  decide +kernel

end Cpppo.Logix
