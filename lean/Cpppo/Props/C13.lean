import Cpppo.Proofs.ClientRx
import Cpppo.Generated.Tables

/-!
# C13 — Under any connection fault the client never pairs a reply with the wrong request

Property theorems about the model `Cpppo.ClientRx` of `client.__next__` / `await_response` /
`connector.collect` / `harvest` / `pipeline` / `synchronous` / `connector.__init__` and of the gateway
handling of `get_attribute.proxy`.

The reply stream of the peer is a list of encapsulation frames `reg :: fs` (the Register reply, then
the replies), delivered up to byte offset `k` in blocks of any sizes, and then either closed (EOF) or
silent beyond the client's timeout.  `P : Frame → Resp` is the reply parser (`enip_replies`), arbitrary.

* `never_mispaired`, `never_short_silently`, `segmentation_irrelevant`, `depth_irrelevant`: for **every**
  input (any bytes, any events, any parser): whatever is yielded passed the context/service assertion
  against the request it is yielded for, the `n`-th record is for the `n`-th request, and fewer records
  than requests come only together with an error.
* `cut_yields_zip`, `lost_reply_detected`: for any well-formed frames (lost, duplicated, overtaken replies):
  pairing stops with `mismatch` at the first reply that is not the next request's.
* `cut_yields_prefix`, `no_success_on_partial`, `exchange_cut`: for a peer that answers in order: the
  records are exactly the replies of the frames lying wholly inside the first `k` bytes, each paired
  with its own request; a frame that was not completely received yields nothing; unless that covers all
  requests the stream ends with an error (which one is stated).
* `proxy_failure_discards`, `proxy_reconnects`, `proxy_recovers`, `proxy_conn_fresh`, `open_fault_fails`,
  `proxy_next_use_correct`, `fault_anywhere_then_recovers`: the gateway automaton including the open phase
  (Register + List Identity): whatever made a use fail, the next use on a healthy device returns correct data.
* `synchronousOld_short_silently`: the code before the `fix:` commit violates the property (witness).

PARTIAL: what "silent beyond the timeout" means in wall-clock terms, `select`, half-open sockets, and
thread interleavings inside the proxy are not in the model (sampled by the fault-injecting relay).
-/
namespace Cpppo.ClientRx

/-! ### for every input whatsoever -/

/-- **The result stream of `pipeline` does not depend on the depth** (nor on the starting index), and is
that of the repaired `synchronous`. -/
theorem depth_irrelevant (P : Frame → Resp) (depth depth' index index' : Nat) (issued : List Iss) (st : CSt) :
    pipeline P depth index issued st = pipeline P depth' index' issued st ∧
    pipeline P depth index issued st = synchronous P issued st := by
  simp [pipeline_eq]

/-- **Never mispaired**: every record yielded — on any byte stream, cut anywhere or not at all, well-formed
or not — carries a reply whose sender context equals the context of the request it is yielded for and
whose service is that request's service with the reply bit; and the `n`-th record is for the `n`-th
request issued. -/
theorem never_mispaired (P : Frame → Resp) (depth index : Nat) (issued : List Iss) (st : CSt) :
    (∀ r ∈ (pipeline P depth index issued st).1, r.ctx = r.iss.ctx ∧ r.rpy.svc = rpySvc r.iss.svc) ∧
    (pipeline P depth index issued st).1.map (·.iss) =
      issued.take (pipeline P depth index issued st).1.length := by
  rw [pipeline_eq, synchronous_eq]
  exact ⟨(harvestAll_sound P issued st).1, (harvestAll_sound P issued st).2.1⟩

/-- **Never short silently**: the stream of records ends without an error exactly when there is one
record per request; otherwise there are fewer, and it ends with an error. -/
theorem never_short_silently (P : Frame → Resp) (depth index : Nat) (issued : List Iss) (st : CSt) :
    (pipeline P depth index issued st).1.length ≤ issued.length ∧
    ((pipeline P depth index issued st).2.1 = .ok ↔
      (pipeline P depth index issued st).1.length = issued.length) := by
  obtain ⟨_, hown, hex⟩ := harvestAll_sound P issued st
  have hlen := congrArg List.length hown
  rw [List.length_map, List.length_take] at hlen
  rw [pipeline_eq, synchronous_eq, ← hex]
  exact ⟨by dsimp only; omega, by cases (harvestAll P issued st).2.1 <;> simp [endOfH]⟩

/-- corollary in the words of the property: fewer results than operations ⇒ an error ends the stream -/
theorem short_implies_error (P : Frame → Resp) (depth index : Nat) (issued : List Iss) (st : CSt)
    (h : (pipeline P depth index issued st).1.length < issued.length) :
    ∃ e, (pipeline P depth index issued st).2.1 = .error e := by
  have := (never_short_silently P depth index issued st).2
  cases he : (pipeline P depth index issued st).2.1 with
  | ok => rw [he] at this; have := this.mp rfl; omega
  | error e => exact ⟨e, rfl⟩

/-- **Segmentation is irrelevant**: records and end depend only on the bytes that arrive before each
EOF / silence, not on the blocks they arrive in. -/
theorem segmentation_irrelevant (P : Frame → Resp) (depth index : Nat) (issued : List Iss) (st st' : CSt)
    (h : flat st = flat st') :
    (pipeline P depth index issued st).1 = (pipeline P depth index issued st').1 ∧
    (pipeline P depth index issued st).2.1 = (pipeline P depth index issued st').2.1 := by
  obtain ⟨h1, h2⟩ := harvestAll_congr P issued st st' h
  simp only [pipeline_eq, synchronous_eq, h1, h2, and_self]

/-! ### a reply stream cut at byte offset `k` -/

/-- **Cut yields the checked zip**: the first `k` bytes of the stream of any well-formed frames `fs` (replies lost,
duplicated, overtaken, from another exchange) arrive (in any blocks: `flat st = …`), then EOF (`closed`) or silence.
Then the records are the pairs of `zipSpec` over the replies of the frames wholly inside the first `k` bytes: pairing
stops with `mismatch` at the first reply that does not carry the next request's context and service. -/
theorem cut_yields_zip (P : Frame → Resp) (depth index : Nat) (issued : List Iss) (fs : List Frame)
    (k : Nat) (closed : Bool) (st : CSt)
    (hst : flat st = flat (cutState fs k closed)) (hs : Served P fs) :
    (pipeline P depth index issued st).1 =
      (zipSpec issued ((fs.take (whole k fs)).flatMap (colsOf P)) (cutEnd closed (leftover k fs))).1 ∧
    (pipeline P depth index issued st).2.1 =
      endOfH (zipSpec issued ((fs.take (whole k fs)).flatMap (colsOf P)) (cutEnd closed (leftover k fs))).2 := by
  obtain ⟨c1, c2⟩ := harvestAll_congr P issued st _ hst
  obtain ⟨h1, h2⟩ := harvestAll_of_collects (collects_cut P closed fs hs k) issued
  rw [pipeline_eq, synchronous_eq, c1, c2]
  exact ⟨h1, congrArg endOfH h2⟩

/-- **Cut yields prefix**: when moreover the replies `fs` answer the issued requests in order, the records are
exactly the replies of the frames wholly inside the first `k` bytes, each paired with its own request,
and the stream ends without error iff these cover all requests; else with `rxerror` (EOF inside a
frame) or `incomplete` (EOF between frames, or silence). -/
theorem cut_yields_prefix (P : Frame → Resp) (depth index : Nat) (issued : List Iss) (fs : List Frame)
    (k : Nat) (closed : Bool) (st : CSt)
    (hst : flat st = flat (cutState fs k closed)) (hs : Served P fs)
    (hm : AllMatch issued (fs.flatMap (colsOf P))) :
    (pipeline P depth index issued st).1 =
      (issued.zip ((fs.take (whole k fs)).flatMap (colsOf P))).map mkRes ∧
    (pipeline P depth index issued st).2.1 =
      if issued.length ≤ ((fs.take (whole k fs)).flatMap (colsOf P)).length then .ok
      else .error (cutErr closed (leftover k fs)) := by
  have hm' : AllMatch issued ((fs.take (whole k fs)).flatMap (colsOf P)) := by
    rw [← List.take_append_drop (whole k fs) fs, List.flatMap_append] at hm; exact AllMatch_prefix hm
  have h := cut_yields_zip P depth index issued fs k closed st hst hs
  rw [zipSpec_allMatch _ _ _ hm', apply_ite endOfH, endOfH_cutEnd] at h
  exact h

/-- **A reply lost entirely is detected, not mispaired**: the frames delivered (all of them, then silence or
EOF) answer the first requests `is₁` one by one, but the reply to the next request `i` is missing, so that
the next reply `c` (if any) belongs to a later request: the records are exactly those of `is₁`, and the stream
ends with `mismatch` — or, when nothing follows, with `incomplete`. -/
theorem lost_reply_detected (P : Frame → Resp) (depth index : Nat) (is₁ : List Iss) (i : Iss) (is₂ : List Iss)
    (fs : List Frame) (cs₁ cs₂ : List Col) (closed : Bool) (st : CSt)
    (hst : flat st = flat (cutState fs (stream fs).length closed)) (hs : Served P fs)
    (hcols : fs.flatMap (colsOf P) = cs₁ ++ cs₂)
    (h₁ : AllMatch is₁ cs₁) (hl : is₁.length = cs₁.length)
    (hnext : ∀ c, cs₂.head? = some c → ¬ Matches i c) :
    (pipeline P depth index (is₁ ++ i :: is₂) st).1 = (is₁.zip cs₁).map mkRes ∧
    (pipeline P depth index (is₁ ++ i :: is₂) st).2.1 =
      .error (if cs₂.isEmpty then .incomplete else .mismatch) := by
  obtain ⟨h1, h2⟩ := cut_yields_zip P depth index (is₁ ++ i :: is₂) fs (stream fs).length closed st hst hs
  obtain ⟨hw, hl0⟩ := cut_total fs _ (Nat.le_refl _)
  rw [hw, hl0, List.take_length, hcols, zipSpec_append is₁ cs₁ _ _ _ h₁ hl] at h1 h2
  cases cs₂ with
  | nil => exact ⟨h1.trans (List.append_nil _), h2⟩
  | cons c cs =>
    rw [zipSpec, if_neg (hnext c rfl)] at h1 h2
    exact ⟨h1.trans (List.append_nil _), h2⟩

/-- **No success on a partial reply**: the number of records is the number of replies in wholly received
frames (capped by the number of requests): the frame the cut falls into, and everything behind it,
yields nothing. -/
theorem no_success_on_partial (P : Frame → Resp) (depth index : Nat) (issued : List Iss) (fs : List Frame)
    (k : Nat) (closed : Bool) (st : CSt)
    (hst : flat st = flat (cutState fs k closed)) (hs : Served P fs)
    (hm : AllMatch issued (fs.flatMap (colsOf P))) :
    (pipeline P depth index issued st).1.length =
      min issued.length ((fs.take (whole k fs)).flatMap (colsOf P)).length := by
  rw [(cut_yields_prefix P depth index issued fs k closed st hst hs hm).1]
  simp

/-- the whole stream delivered and enough replies: every request gets its own reply, no error -/
theorem complete_exchange (P : Frame → Resp) (depth index : Nat) (issued : List Iss) (fs : List Frame)
    (k : Nat) (closed : Bool) (st : CSt)
    (hst : flat st = flat (cutState fs k closed)) (hs : Served P fs)
    (hm : AllMatch issued (fs.flatMap (colsOf P)))
    (hk : (stream fs).length ≤ k) (hn : issued.length ≤ (fs.flatMap (colsOf P)).length) :
    (pipeline P depth index issued st).1 = (issued.zip (fs.flatMap (colsOf P))).map mkRes ∧
    (pipeline P depth index issued st).2.1 = .ok := by
  obtain ⟨h1, h2⟩ := cut_yields_prefix P depth index issued fs k closed st hst hs hm
  rw [(cut_total fs k hk).1, List.take_length] at h1 h2
  exact ⟨h1, by rw [h2, if_pos hn]⟩

/-! ### the whole exchange, Register included -/

/-- **Every cut position of the server-to-client stream** `reg :: fs`, delivered in one block: inside the
Register reply the connector is not created (and which exception says so); behind it the operations see
the rest of the prefix and `cut_yields_prefix` applies. -/
theorem exchange_cut (P : Frame → Resp) (depth : Nat) (issued : List Iss) (reg : Frame) (fs : List Frame)
    (k : Nat) (closed : Bool) (hr : IsRegister reg) (hs : Served P fs)
    (hm : AllMatch issued (fs.flatMap (colsOf P))) :
    exchange P depth issued [.data ((stream (reg :: fs)).take k), termEv closed] =
      exchangeCutSpec P issued reg fs k closed := by
  obtain ⟨h1, h2⟩ := cut_yields_prefix P depth 0 issued fs (k - (encodeFrame reg).length) closed _ rfl hs hm
  unfold exchange exchangeCutSpec
  rw [connect_cut reg fs k closed hr]
  by_cases hk : (encodeFrame reg).length ≤ k <;> simp only [hk, if_true, if_false, h1, h2]

/-- … and delivered in blocks of any sizes: the statement the check evaluates on every unmutated exchange
(`IsRegister`, `Served`, `AllMatch` are decided by the driver on the real byte streams). -/
theorem exchange_cut_segmented (P : Frame → Resp) (depth : Nat) (issued : List Iss) (reg : Frame)
    (fs : List Frame) (k : Nat) (closed : Bool) (evs : List Ev)
    (hj : joinData evs = (stream (reg :: fs)).take k) (ha : afterData evs = [termEv closed])
    (hr : IsRegister reg) (hs : Served P fs) (hm : AllMatch issued (fs.flatMap (colsOf P))) :
    exchange P depth issued evs = exchangeCutSpec P issued reg fs k closed := by
  rw [exchange_flat, hj, ha]
  exact exchange_cut P depth issued reg fs k closed hr hs hm

/-- the general form, for any well-formed frames: what the check evaluates on every exchange whose frames
parse (mutated streams included) -/
theorem exchange_zip_segmented (P : Frame → Resp) (depth : Nat) (issued : List Iss) (reg : Frame)
    (fs : List Frame) (k : Nat) (closed : Bool) (evs : List Ev)
    (hj : joinData evs = (stream (reg :: fs)).take k) (ha : afterData evs = [termEv closed])
    (hr : IsRegister reg) (hs : Served P fs) :
    exchange P depth issued evs = exchangeZipSpec P issued reg fs k closed := by
  rw [exchange_flat, hj, ha]
  obtain ⟨h1, h2⟩ := cut_yields_zip P depth 0 issued fs (k - (encodeFrame reg).length) closed _ rfl hs
  unfold exchange exchangeZipSpec
  rw [connect_cut reg fs k closed hr]
  by_cases hk : (encodeFrame reg).length ≤ k <;> simp only [hk, if_true, if_false, h1, h2]

/-! ### the proxy's gateway -/

/-- a use failed: `open_gateway` raised out of `__enter__`, or the operations raised inside the `with` -/
def UseOut.Failed : UseOut → Prop
  | .openfail _ _ => True
  | .ran _ _ (.error _) => True
  | .identified _ (some _) => True
  | _ => False

/-- what a use reports, as a value comparable across uses -/
def UseOut.conn : UseOut → Option Nat
  | .openfail n _ => some n
  | .ran n _ _ => some n
  | .identified n _ => some n
  | .refused => none

/-- **Any failure discards the gateway**: after a use that failed — while connecting, while identifying the
device (the exception then leaves `proxy.__enter__`, so `__exit__` never sees it: `open_gateway` itself must
discard the connector), or while operating — `proxy.gateway` is `None`. -/
theorem proxy_failure_discards (P : Frame → Resp) (ident : Bool) (depth : Nat) (conns : List (List Ev))
    (p : Proxy) (issued : List Iss) (h : (proxyUse P ident depth conns p issued).2.Failed) :
    (proxyUse P ident depth conns p issued).1.gateway = none := by
  revert h
  -- the branches of `proxyUse`.  On the gateway: 1 the send fails, 2 the operations end well, 3 they fail.
  -- Without one: 4 refused, 5 `open_gateway` fails; on the new gateway: 6 the operations end well, 7 they fail.
  fun_cases proxyUse P ident depth conns p issued
  case case2 | case4 | case6 => exact False.elim -- no failure
  all_goals exact fun _ => rfl

/-- the same for `proxy.list_identity()` (run by `@maintain_gateway` inside `with proxy:`): when its List Identity
exchange fails — on an established gateway or on one it had to open — no gateway is kept -/
theorem proxy_identity_failure_discards (ident : Bool) (conns : List (List Ev)) (p : Proxy)
    (h : (proxyIdentify ident conns p).2.Failed) : (proxyIdentify ident conns p).1.gateway = none := by
  revert h
  -- the branches of `proxyIdentify`.  On the gateway: 1 identified, 2 not.  Without one: 3 refused,
  -- 4 `open_gateway` fails; on the new gateway: 5 identified, 6 not.
  fun_cases proxyIdentify ident conns p
  case case1 | case3 | case5 => exact False.elim -- no failure
  all_goals exact fun _ => rfl

/-- a failed `list_identity()` never moves the connection count backwards, so the connection the next use opens
is a new one -/
theorem proxy_identity_opened_mono (ident : Bool) (conns : List (List Ev)) (p : Proxy) :
    p.opened ≤ (proxyIdentify ident conns p).1.opened := by
  fun_cases proxyIdentify ident conns p
  case case1 | case2 | case3 => exact Nat.le_refl _ -- no connection opened (branches as above)
  all_goals exact Nat.le_succ _

/-- **The next use reconnects**: with no gateway, a use opens the next connection — one never used
before — and its outcome is that of a whole fresh `open_gateway` + operations on it. -/
theorem proxy_reconnects (P : Frame → Resp) (ident : Bool) (depth : Nat) (conns : List (List Ev)) (p : Proxy)
    (issued : List Iss) (evs : List Ev) (hg : p.gateway = none) (hc : conns[p.opened]? = some evs) :
    (proxyUse P ident depth conns p issued).1.opened = p.opened + 1 ∧
    (proxyUse P ident depth conns p issued).2.conn = some p.opened ∧
    (match proxyExchange P ident depth issued evs with
     | .error e => (proxyUse P ident depth conns p issued).2 = .openfail p.opened e
     | .ok (rs, e) => (proxyUse P ident depth conns p issued).2 = .ran p.opened rs e) := by
  unfold proxyUse proxyExchange
  rw [hg]; dsimp only; rw [hc]; dsimp only
  cases openGateway ident evs with
  | error e => exact ⟨rfl, rfl, rfl⟩
  | ok st =>
    dsimp only
    rcases pipeline P depth 0 issued st with ⟨rs', e', st'⟩
    cases e' <;> exact ⟨rfl, rfl, rfl⟩

/-- gateway numbers are below the count of connections opened: a new connection is never a reused one -/
def Proxy.Inv (p : Proxy) : Prop := ∀ n st, p.gateway = some (n, st) → n < p.opened

theorem proxy_conn_fresh (P : Frame → Resp) (ident : Bool) (depth : Nat) (conns : List (List Ev)) (p : Proxy)
    (issued : List Iss) (hinv : p.Inv) :
    (proxyUse P ident depth conns p issued).1.Inv ∧
    p.opened ≤ (proxyUse P ident depth conns p issued).1.opened ∧
    (∀ n, (proxyUse P ident depth conns p issued).2.conn = some n →
      n < (proxyUse P ident depth conns p issued).1.opened) ∧
    (p.gateway = none → ∀ n, (proxyUse P ident depth conns p issued).2.conn = some n → n = p.opened) := by
  unfold Proxy.Inv at hinv ⊢
  -- on the established connection `m` no connection is opened
  have old : ∀ {m st}, p.gateway = some (m, st) → (∀ n, some m = some n → n < p.opened) ∧
      (p.gateway = none → ∀ n, some m = some n → n = p.opened) :=
    fun hg => ⟨fun n h => Option.some.inj h ▸ hinv _ _ hg, fun h => nomatch hg.symm.trans h⟩
  -- else the connection is `p.opened`, opened by this use
  have new : (∀ n, some p.opened = some n → n < p.opened + 1) ∧
      (p.gateway = none → ∀ n, some p.opened = some n → n = p.opened) :=
    ⟨fun n h => Option.some.inj h ▸ Nat.lt_succ_self _, fun _ n h => (Option.some.inj h).symm⟩
  fun_cases proxyUse P ident depth conns p issued -- branches as in `proxy_failure_discards`
  case case1 m st hg _ => exact ⟨nofun, Nat.le_refl _, old hg⟩
  case case2 m st hg _ rs st' _ => exact ⟨fun n s h => by cases h; exact hinv m st hg, Nat.le_refl _, old hg⟩
  case case3 m st hg _ rs e s' _ => exact ⟨nofun, Nat.le_refl _, old hg⟩
  case case4 => exact ⟨hinv, Nat.le_refl _, nofun, fun _ => nofun⟩
  case case6 => exact ⟨fun n s h => by cases h; exact Nat.lt_succ_self _, Nat.le_succ _, new⟩
  all_goals exact ⟨nofun, Nat.le_succ _, new⟩

/-- **Every fault position of the gateway-opening phase** (proxy without `identity_default`): a reply stream
cut anywhere inside the Register reply or inside the List Identity reply makes `open_gateway` fail (which
exception is stated by `open_cut`), whatever would have followed. -/
theorem open_fault_fails (P : Frame → Resp) (depth : Nat) (issued : List Iss) (reg idf : Frame) (fs : List Frame)
    (k : Nat) (closed : Bool) (hr : IsRegister reg) (hi : IsIdentity idf)
    (hk : k < (encodeFrame reg).length + (encodeFrame idf).length) :
    ∃ e, proxyExchange P true depth issued [.data ((stream (reg :: idf :: fs)).take k), termEv closed] = .error e := by
  unfold proxyExchange
  rw [open_cut reg idf fs k closed hr hi]
  by_cases h1 : (encodeFrame reg).length ≤ k
  · rw [if_pos h1, if_neg (by omega)]; exact ⟨_, rfl⟩
  · rw [if_neg h1]; exact ⟨_, rfl⟩

/-- the whole stream of a healthy device opens the gateway and leaves exactly the replies to the operations -/
theorem open_whole (ident : Bool) (reg idf : Frame) (fs : List Frame) (closed : Bool) (hr : IsRegister reg)
    (hi : IsIdentity idf) :
    openGateway ident [.data (stream (openFrames ident reg idf ++ fs)), termEv closed] =
      .ok (cutState fs (stream fs).length closed) := by
  cases ident with
  | true =>
    have h := open_cut reg idf fs (stream (reg :: idf :: fs)).length closed hr hi
    rw [List.take_length, stream_length_cons, stream_length_cons, if_pos (Nat.le_add_right ..),
      Nat.add_sub_cancel_left, if_pos (Nat.le_add_right ..), Nat.add_sub_cancel_left] at h
    exact h
  | false =>
    have h := open_cut_noident reg fs (stream (reg :: fs)).length closed hr
    rw [List.take_length, stream_length_cons, if_pos (Nat.le_add_right ..), Nat.add_sub_cancel_left] at h
    exact h

/-- **… and returns correct data**: with no gateway, if the next connection is to a healthy device — it
delivers the whole stream: Register reply, List Identity reply (when the proxy identifies), and replies `fs`
answering the requests in order — the use yields every request's own reply and no error, on that new
connection. -/
theorem proxy_recovers (P : Frame → Resp) (ident : Bool) (depth : Nat) (conns : List (List Ev)) (p : Proxy)
    (issued : List Iss) (reg idf : Frame) (fs : List Frame) (closed : Bool)
    (hg : p.gateway = none)
    (hc : conns[p.opened]? = some [.data (stream (openFrames ident reg idf ++ fs)), termEv closed])
    (hr : IsRegister reg) (hi : IsIdentity idf) (hs : Served P fs)
    (hm : AllMatch issued (fs.flatMap (colsOf P)))
    (hn : issued.length ≤ (fs.flatMap (colsOf P)).length) :
    (proxyUse P ident depth conns p issued).2 =
      .ran p.opened ((issued.zip (fs.flatMap (colsOf P))).map mkRes) .ok := by
  have ho := open_whole ident reg idf fs closed hr hi
  obtain ⟨h1, h2⟩ := complete_exchange P depth 0 issued fs _ closed _ rfl hs hm (Nat.le_refl _) hn
  obtain ⟨_, _, h3⟩ := proxy_reconnects P ident depth conns p issued _ hg hc
  unfold proxyExchange at h3
  rw [ho] at h3
  dsimp only at h3
  rw [h3, h1, h2]

/-- **after a failed `list_identity()` the next read on a healthy device returns correct data** -/
theorem identity_failure_then_recovers (P : Frame → Resp) (ident : Bool) (depth : Nat) (conns : List (List Ev))
    (p : Proxy) (issued : List Iss) (reg idf : Frame) (fs : List Frame) (closed : Bool)
    (hfail : (proxyIdentify ident conns p).2.Failed)
    (hc : conns[(proxyIdentify ident conns p).1.opened]? =
      some [.data (stream (openFrames ident reg idf ++ fs)), termEv closed])
    (hr : IsRegister reg) (hi : IsIdentity idf) (hs : Served P fs)
    (hm : AllMatch issued (fs.flatMap (colsOf P)))
    (hn : issued.length ≤ (fs.flatMap (colsOf P)).length) :
    (proxyUse P ident depth conns (proxyIdentify ident conns p).1 issued).2 =
      .ran (proxyIdentify ident conns p).1.opened ((issued.zip (fs.flatMap (colsOf P))).map mkRes) .ok :=
  proxy_recovers P ident depth conns _ issued reg idf fs closed
    (proxy_identity_failure_discards ident conns p hfail) hc hr hi hs hm hn

/-- **The last sentence of the property, at full strength**: a use of the proxy fails — for *whatever* reason:
any fault at any byte offset of the open phase (Register, List Identity) or of the data phase, in either
direction, EOF or silence, lost or foreign replies, on a gateway it already had or on one it was opening — then
the connection is discarded, and the next use, finding a healthy device, reconnects on a connection never
used before and returns every request's own reply without error. -/
theorem proxy_next_use_correct (P : Frame → Resp) (ident : Bool) (depth : Nat) (conns : List (List Ev))
    (p : Proxy) (issued₁ issued₂ : List Iss) (reg idf : Frame) (fs : List Frame) (closed : Bool)
    (hinv : p.Inv)
    (hfail : (proxyUse P ident depth conns p issued₁).2.Failed)
    (hc : conns[(proxyUse P ident depth conns p issued₁).1.opened]? =
      some [.data (stream (openFrames ident reg idf ++ fs)), termEv closed])
    (hr : IsRegister reg) (hi : IsIdentity idf) (hs : Served P fs)
    (hm : AllMatch issued₂ (fs.flatMap (colsOf P)))
    (hn : issued₂.length ≤ (fs.flatMap (colsOf P)).length) :
    (proxyUse P ident depth conns p issued₁).1.gateway = none ∧
    (∀ n, (proxyUse P ident depth conns p issued₁).2.conn = some n →
      n < (proxyUse P ident depth conns p issued₁).1.opened) ∧
    (proxyUse P ident depth conns (proxyUse P ident depth conns p issued₁).1 issued₂).2 =
      .ran (proxyUse P ident depth conns p issued₁).1.opened
        ((issued₂.zip (fs.flatMap (colsOf P))).map mkRes) .ok := by
  have hg := proxy_failure_discards P ident depth conns p issued₁ hfail
  exact ⟨hg, (proxy_conn_fresh P ident depth conns p issued₁ hinv).2.2.1,
    proxy_recovers P ident depth conns _ issued₂ reg idf fs closed hg hc hr hi hs hm hn⟩

/-- … in particular for a fresh proxy whose first connection behaves in any way at all (`evs₀` arbitrary: cut at
any offset of Register / List Identity / data replies, garbage, silence) and whose second connection is to a
healthy device: either the first use succeeded, or the second returns correct data on connection 1. -/
theorem fault_anywhere_then_recovers (P : Frame → Resp) (ident : Bool) (depth : Nat) (evs₀ : List Ev)
    (issued₁ issued₂ : List Iss) (reg idf : Frame) (fs : List Frame) (closed : Bool)
    (hr : IsRegister reg) (hi : IsIdentity idf) (hs : Served P fs)
    (hm : AllMatch issued₂ (fs.flatMap (colsOf P)))
    (hn : issued₂.length ≤ (fs.flatMap (colsOf P)).length) :
    (∃ rs, (proxyUse P ident depth [evs₀, [.data (stream (openFrames ident reg idf ++ fs)), termEv closed]]
        { gateway := none, opened := 0 } issued₁).2 = .ran 0 rs .ok) ∨
    (proxyUse P ident depth [evs₀, [.data (stream (openFrames ident reg idf ++ fs)), termEv closed]]
      (proxyUse P ident depth [evs₀, [.data (stream (openFrames ident reg idf ++ fs)), termEv closed]]
        { gateway := none, opened := 0 } issued₁).1 issued₂).2 =
      .ran 1 ((issued₂.zip (fs.flatMap (colsOf P))).map mkRes) .ok := by
  generalize hcs : [evs₀, [.data (stream (openFrames ident reg idf ++ fs)), termEv closed]] = conns
  obtain ⟨hop, _, hout⟩ := proxy_reconnects P ident depth conns { gateway := none, opened := 0 } issued₁ evs₀ rfl
    (by rw [← hcs]; rfl)
  -- a first use that failed is followed by a correct one
  have second := fun hfail => (proxy_next_use_correct P ident depth conns { gateway := none, opened := 0 } issued₁
    issued₂ reg idf fs closed (fun n st h => nomatch h) hfail (by rw [hop, ← hcs]; rfl) hr hi hs hm hn).2.2
  rw [hop] at second
  revert hout
  rcases proxyExchange P ident depth issued₁ evs₀ with e | ⟨rs, _ | e⟩ <;> intro hout
  · exact .inr (second (by rw [hout]; trivial)) -- `open_gateway` failed
  · exact .inl ⟨rs, hout⟩
  · exact .inr (second (by rw [hout]; trivial)) -- the operations failed

/-! ### `synchronous` -/

/-- the repaired `synchronous` has the same result stream as `pipeline`, hence all of the above -/
theorem synchronous_eq_pipeline (P : Frame → Resp) (depth index : Nat) (issued : List Iss) (st : CSt) :
    synchronous P issued st = pipeline P depth index issued st := (pipeline_eq P depth index issued st).symm

/-! ### Non-vacuity and witnesses (tests on concrete values, by evaluation) -/

/-- a Register reply and three Read Tag replies, as the simulator sends them -/
def regFrame : Frame :=
  { cmd := 0x65, session := 0x11223344, status := 0, ctx := [0, 0, 0, 0, 0, 0, 0, 0], options := 0,
    payload := [1, 0, 0, 0] }

def readReply (ctx : Nat) (v : Nat) : Frame :=
  { cmd := 0x6f, session := 0x11223344, status := 0, ctx := [ctx, 0, 0, 0, 0, 0, 0, 0], options := 0,
    payload := [0, 0, 0, 0, 8, 0, 2, 0, 0, 0, 0, 0, 0xb2, 0, 10, 0, 0xcc, 0, 0, 0, 0xc4, 0, v, 0, 0, 0] }

def threeReplies : List Frame := [readReply 0x30 100, readReply 0x31 101, readReply 0x32 102]

def threeIssued : List Iss :=
  [{ idx := 0, ctx := [0x30], svc := 0x4c }, { idx := 1, ctx := [0x31], svc := 0x4c },
   { idx := 2, ctx := [0x32], svc := 0x4c }]

example : IsRegister regFrame := by decide
example : Served parseFrame threeReplies := by decide +kernel
example : AllMatch threeIssued (threeReplies.flatMap (colsOf parseFrame)) := by decide +kernel
example : (encodeFrame regFrame).length = 28 ∧ (stream threeReplies).length = 150 := by decide +kernel

/-- cut inside the second reply (offset 28 + 60), connection closed: one record, for request 0 with the
value of reply 0, then the framing error -/
example : (exchange parseFrame 2 threeIssued [.data ((stream (regFrame :: threeReplies)).take 88), .eof]).toOption =
    some (Prod.mk [{ iss := { idx := 0, ctx := [0x30], svc := 0x4c }, ctx := [0x30],
                     rpy := { svc := 0xcc, status := 0, raw := [0xcc, 0, 0, 0, 0xc4, 0, 100, 0, 0, 0] } }]
            (.error .rxerror)) := by decide +kernel

/-- the same cut delivered in two blocks gives the same outcome -/
example : (exchange parseFrame 2 threeIssued
    [.data ((stream (regFrame :: threeReplies)).take 30),
     .data (((stream (regFrame :: threeReplies)).take 88).drop 30), .eof]).toOption =
    (exchange parseFrame 2 threeIssued [.data ((stream (regFrame :: threeReplies)).take 88), .eof]).toOption := by
  decide +kernel

/-- the hypotheses of `exchange_cut_segmented` / `cut_yields_prefix` on the two-block delivery above -/
example : joinData [.data ((stream (regFrame :: threeReplies)).take 30),
      .data (((stream (regFrame :: threeReplies)).take 88).drop 30), .eof] =
      (stream (regFrame :: threeReplies)).take 88 ∧
    afterData [.data ((stream (regFrame :: threeReplies)).take 30),
      .data (((stream (regFrame :: threeReplies)).take 88).drop 30), Ev.eof] = [termEv true] := by decide +kernel

example : flat { buf := (stream threeReplies).take 20, evs := [.data (((stream threeReplies).take 60).drop 20), .eof],
                 pend := [] } = flat (cutState threeReplies 60 true) := by decide +kernel

/-- the hypotheses of `lost_reply_detected`: the reply to the second request is lost -/
example : Served parseFrame [readReply 0x30 100, readReply 0x32 102] ∧
    AllMatch [threeIssued[0]] ((colsOf parseFrame (readReply 0x30 100))) ∧
    (∀ c, (colsOf parseFrame (readReply 0x32 102)).head? = some c → ¬ Matches threeIssued[1] c) := by
  decide +kernel

example : (exchange parseFrame 2 threeIssued
    [.data (stream [regFrame, readReply 0x30 100, readReply 0x32 102]), .quiet]).toOption =
    some (Prod.mk [{ iss := { idx := 0, ctx := [0x30], svc := 0x4c }, ctx := [0x30],
                     rpy := { svc := 0xcc, status := 0, raw := [0xcc, 0, 0, 0, 0xc4, 0, 100, 0, 0, 0] } }]
            (.error .mismatch)) := by decide +kernel

/-- replies in the wrong order (a dropped or overtaken frame) are detected, not mispaired -/
example : (exchange parseFrame 2 threeIssued
    [.data (stream [regFrame, readReply 0x31 101, readReply 0x30 100, readReply 0x32 102]), .eof]).toOption =
    some ([], .error .mismatch) := by decide +kernel

/-- **The code before the `fix:` commit violates the property**: `synchronous` (what `operate` and
`proxy.read` use for `depth = 0`) with the connection closed exactly between the Register reply and
the first reply (offset 28) yields no record for three requests and ends **without** an error; the
repaired code raises. -/
theorem synchronousOld_short_silently :
    ∃ st, (connect [.data ((stream (regFrame :: threeReplies)).take 28), .eof]).toOption = some st ∧
      (synchronousOld parseFrame threeIssued st).1 = [] ∧
      (synchronousOld parseFrame threeIssued st).2.1 = .ok ∧
      (synchronous parseFrame threeIssued st).2.1 = .error .incomplete :=
  ⟨{ buf := [], evs := [.eof], pend := [] }, by decide +kernel⟩

/-- … and the same at the boundary after the first reply (offset 78), with silence instead of EOF -/
theorem synchronousOld_short_silently' :
    ∃ st, (connect [.data ((stream (regFrame :: threeReplies)).take 78), .quiet]).toOption = some st ∧
      (synchronousOld parseFrame threeIssued st).1.length = 1 ∧
      (synchronousOld parseFrame threeIssued st).2.1 = .ok ∧
      (synchronous parseFrame threeIssued st).2.1 = .error .incomplete :=
  ⟨{ buf := ((stream (regFrame :: threeReplies)).take 78).drop 28, evs := [.quiet], pend := [] },
    by decide +kernel⟩

/-- a List Identity reply (payload abbreviated: the model's `identify` only looks at command and status) -/
def identFrame : Frame :=
  { cmd := 0x63, session := 0x11223344, status := 0, ctx := [0, 0, 0, 0, 0, 0, 0, 0], options := 0,
    payload := [1, 0, 0x0c, 0, 4, 0, 1, 0, 0, 0] }

example : IsIdentity identFrame := by decide

-- a use as (connection, records, error); in place of the records 1000: `open_gateway` failed, 2000 / 2001:
-- `list_identity()` succeeded / failed; connection 99: refused
def showUseOut : UseOut → Nat × Nat × Option Err
  | .ran n rs .ok => (n, rs.length, none)
  | .ran n rs (.error e) => (n, rs.length, some e)
  | .openfail n _ => (n, 1000, none)
  | .identified n none => (n, 2000, none)
  | .identified n (some _) => (n, 2001, none)
  | .refused => (99, 0, none)

/-- the proxy: first connection cut inside reply 1, second connection whole: failure, gateway discarded,
reconnect on connection 1, correct data -/
example : (proxyRun parseFrame false 2
      [[.data ((stream (regFrame :: threeReplies)).take 88), .eof],
       [.data (stream (regFrame :: threeReplies)), .quiet]]
      { gateway := none, opened := 0 } [.read threeIssued, .read threeIssued]).map showUseOut =
    [(0, 1, some .rxerror), (1, 3, none)] := by decide +kernel

/-- the proxy identifying its device: first connection cut inside the List Identity reply (offset 28 + 10):
`open_gateway` fails, nothing is kept; the next use opens connection 1 and gets all three values -/
example : (proxyRun parseFrame true 2
      [[.data ((stream (regFrame :: identFrame :: threeReplies)).take 38), .eof],
       [.data (stream (regFrame :: identFrame :: threeReplies)), .quiet]]
      { gateway := none, opened := 0 } [.read threeIssued, .read threeIssued]).map showUseOut =
    [(0, 1000, none), (1, 3, none)] := by decide +kernel

/-- `list_identity()` on an established gateway whose reply is lost (silence): it fails, the gateway is
discarded, the next read reconnects on connection 1 -/
example : (proxyRun parseFrame false 2
      [[.data (stream (regFrame :: threeReplies)), .quiet],
       [.data (stream (regFrame :: threeReplies)), .quiet]]
      { gateway := none, opened := 0 } [.read threeIssued, .identity, .read threeIssued]).map showUseOut =
    [(0, 3, none), (0, 2001, none), (1, 3, none)] := by decide +kernel

/-- the peer aborts the idle connection after the first use: the next use's first send raises, the gateway is
discarded, the use after it reconnects -/
example : (proxyRun parseFrame false 2
      [[.data (stream (regFrame :: threeReplies)), .reset],
       [.data (stream (regFrame :: threeReplies)), .quiet]]
      { gateway := none, opened := 0 } [.read threeIssued, .read threeIssued, .read threeIssued]).map showUseOut =
    [(0, 3, none), (0, 0, some .senderror), (1, 3, none)] := by decide +kernel

/-! ### Tie to what the live source says (regenerated on every run by `harness/extract.d/clientrx.py`) -/

/-- (offset, width) of consecutive fields of the given widths -/
def layoutOf : Nat → List Nat → List (Nat × Nat)
  | _, [] => []
  | o, w :: ws => (o, w) :: layoutOf (o + w) ws

/-- the header layout probed on the live `enip_machine` (field order, offsets, widths, total length, the
length field announcing the payload) is the one `takeFrame` / `encodeFrame` use; the command and service
codes of the model are those of the live parser tables; the sender context is NUL-padded to 8 bytes and
NUL-stripped on receipt -/
theorem generated_constants_agree :
    Generated.crxHeaderLayout = layoutOf 0 [2, 2, 4, 4, 8, 4] ∧
    Generated.crxHeaderFields = ["command", "length", "session_handle", "status", "sender_context", "options"] ∧
    Generated.crxHeaderLen = 24 ∧
    (∀ f : Frame, f.WF → (encodeFrame f).length = Generated.crxHeaderLen + f.payload.length) ∧
    cmdRegister = Generated.crxCmdRegister ∧ cmdSendRRData ∈ Generated.crxCmdSendData ∧
    serviceMultipleRpy = Generated.crxMultipleRpy ∧ dataReplyServices = Generated.crxDataRpy ∧
    Generated.crxContextPadsTo8StripsNul = true :=
  ⟨rfl, rfl, rfl, encodeFrame_length, rfl, by decide, rfl, rfl, rfl⟩

end Cpppo.ClientRx
