import Cpppo.Props.C05
import Cpppo.Proofs.Bytes

/-!
# C07 — A Multiple Service Packet is equivalent to its requests issued one by one

About `Cpppo.Logix.execMultiple` / `execMembers` (model of `Message_Router.request` looping over the
bundle members and of the reply side of `Message_Router.produce`).
-/
namespace Cpppo.Logix

/-- the same requests issued individually, in order, to the Message Router -/
def runSingly (d : Dev) : List Simple → Dev × List Reply
  | [] => (d, [])
  | s :: rest =>
    let (d1, r) := execSimple d s
    let (d2, rs) := runSingly d1 rest
    (d2, r :: rs)

theorem execMembers_eq_runSingly (d : Dev) (ss : List Simple) : execMembers d router ss = runSingly d ss := by
  induction ss generalizing d with
  | nil => rfl
  | cons s rest ih => simp only [execMembers, runSingly, execSimple, ih]

/-- **Bundling any list of requests produces exactly the individual replies, in order, and leaves the
tags in exactly the state that issuing them one by one does.**  (bundle addressed to the Message Router,
as clients do; `rs.mapM encodeReply` are the reply bytes of the individually issued requests) -/
theorem bundle_equiv (d : Dev) (p : Path) (ss : List Simple)
    (hp : resolve d.symbols .no p = some (router.1, router.2, none)) :
    execMultiple d p ss =
      ((runSingly d ss).1,
       ((runSingly d ss).2.mapM encodeReply).map fun ms =>
          { svc := svcMulti, status := 0, raw := encodeMultiple ms }) := by
  unfold execMultiple
  have hrt : routeTarget d router p = none := by
    unfold routeTarget; rw [hp]; simp
  rw [hrt, hp]
  simp only [Option.getD_none, execMembers_eq_runSingly]
  cases (runSingly d ss).2.mapM encodeReply <;> rfl

theorem execSimple_preserves_wf (d : Dev) (hwf : d.WF) (s : Simple) :
    (execSimple d s).1.WF ∧ ∃ bs, encodeReply (execSimple d s).2 = some bs := by
  unfold execSimple execSimpleAt
  cases s with
  | readTag | readFrag | writeTag | writeFrag =>
    exact ⟨execTag_preserves_wf _ hwf _ _ _ _ _ _ _ _ _, execTag_reply_producible _ hwf ..⟩
  | _ => exact ⟨execAttr_preserves_wf _ hwf _ _, execAttr_reply_producible ..⟩

/-- the same for a tag service (the restriction is not used) -/
theorem execSimple_preserves_wf_tag (d : Dev) (hwf : d.WF) (s : Simple)
    (_hs : match s with
      | .readTag .. | .readFrag .. | .writeTag .. | .writeFrag .. => True
      | _ => False) :
    (execSimple d s).1.WF ∧ ∃ bs, encodeReply (execSimple d s).2 = some bs := execSimple_preserves_wf d hwf s

def isTagService : Simple → Bool
  | .readTag .. | .readFrag .. | .writeTag .. | .writeFrag .. => true
  | _ => false

theorem runSingly_producible (d : Dev) (hwf : d.WF) (ss : List Simple) :
    (runSingly d ss).1.WF ∧ ∃ ms, (runSingly d ss).2.mapM encodeReply = some ms ∧ ms.length = ss.length := by
  induction ss generalizing d with
  | nil => exact ⟨hwf, [], rfl, rfl⟩
  | cons s rest ih =>
    obtain ⟨hwf1, b, hb⟩ := execSimple_preserves_wf d hwf s
    obtain ⟨hwf2, ms, hms, hlen⟩ := ih (execSimple d s).1 hwf1
    refine ⟨hwf2, b :: ms, ?_, by simp [hlen]⟩
    simp only [runSingly, List.mapM_cons, hb, hms]
    rfl

/-- **A failing request inside the bundle affects neither its neighbours nor the bundle's own framing:**
whatever the members and their statuses (reads, writes, fragmented and attribute services, valid or not),
on a well-formed device the bundle reply has status 0 and carries exactly one reply per member. -/
theorem bundle_framing (d : Dev) (hwf : d.WF) (p : Path) (ss : List Simple)
    (hp : resolve d.symbols .no p = some (router.1, router.2, none)) :
    ∃ ms, (execMultiple d p ss).2 = some { svc := svcMulti, status := 0, raw := encodeMultiple ms }
      ∧ ms.length = ss.length ∧ (execMultiple d p ss).1.WF := by
  obtain ⟨hw, ms, hms, hlen⟩ := runSingly_producible d hwf ss
  rw [bundle_equiv d p ss hp, hms]
  exact ⟨ms, rfl, hlen, hw⟩

theorem offsetsOf_go_length (o : Nat) (ms : List Bytes) : (offsetsOf.go o ms).length = ms.length := by
  induction ms generalizing o with
  | nil => rfl
  | cons m rest ih => simp [offsetsOf.go, ih]

/-- each offset is the first one plus the lengths of the messages before it -/
theorem offsets_go_getElem (o : Nat) (ms : List Bytes) (k : Nat) (hk : k < (offsetsOf.go o ms).length) :
    (offsetsOf.go o ms)[k] = o + (ms.take k).flatten.length := by
  induction ms generalizing o k with
  | nil => nomatch hk
  | cons m rest ih =>
    cases k with
    | zero => rfl
    | succ k =>
      simp only [offsetsOf.go, List.getElem_cons_succ, ih, List.take_succ_cons, List.flatten_cons,
        List.length_append, Nat.add_assoc]

theorem offsets_go_step (o : Nat) (ms : List Bytes) (k : Nat) (h1 : k + 1 < (offsetsOf.go o ms).length)
    (h2 : k < ms.length) :
    (offsetsOf.go o ms)[k + 1] = (offsetsOf.go o ms)[k]'(by omega) + ms[k].length := by
  rw [offsets_go_getElem, offsets_go_getElem, List.take_succ_eq_append_getElem h2, List.flatten_append,
    List.length_append, List.flatten_singleton, Nat.add_assoc]

/-- **first offset 2+2N, each next one advanced by the previous message's length** -/
theorem offsets_exact (ms : List Bytes) :
    (offsetsOf ms).length = ms.length
    ∧ (∀ m rest, ms = m :: rest → (offsetsOf ms).head? = some (2 + 2 * ms.length))
    ∧ (∀ k (h1 : k + 1 < (offsetsOf ms).length) (h2 : k < ms.length),
        (offsetsOf ms)[k + 1] = (offsetsOf ms)[k]'(by omega) + ms[k].length) := by
  refine ⟨offsetsOf_go_length _ ms, ?_, ?_⟩
  · intro m rest h; subst h; simp [offsetsOf, offsetsOf.go]
  · intro k h1 h2
    exact offsets_go_step _ ms k h1 h2

theorem offsetTable_length (os : List Nat) : ((os.map (Bytes.le 2)).flatten).length = 2 * os.length := by
  induction os with
  | nil => rfl
  | cons o rest ih => simp [List.flatten_cons, Bytes.le_length, ih]; omega

theorem locate_go (o : Nat) (ms : List Bytes) (k : Nat) (hk : k < ms.length) (pre : Bytes) (ho : pre.length = o) :
    ∃ hk' : k < (offsetsOf.go o ms).length,
      ((pre ++ ms.flatten).drop ((offsetsOf.go o ms)[k]'hk')).take ms[k].length = ms[k] := by
  refine ⟨(offsetsOf_go_length o ms).symm ▸ hk, ?_⟩
  -- the messages before the `k`th, the `k`th, the rest
  have hms : ms.flatten = (ms.take k).flatten ++ (ms[k] ++ (ms.drop (k + 1)).flatten) := by
    rw [← List.flatten_cons, ← List.drop_eq_getElem_cons hk, ← List.flatten_append, List.take_append_drop]
  rw [offsets_go_getElem, hms, ← ho, ← List.length_append, ← List.append_assoc, List.drop_left, List.take_left]

/-- **The offset table locates each embedded message exactly.** -/
theorem offsets_locate (ms : List Bytes) (k : Nat) (hk : k < ms.length) :
    ∃ hk' : k < (offsetsOf ms).length,
      ((encodeMultiple ms).drop ((offsetsOf ms)[k]'hk')).take ms[k].length = ms[k] := by
  unfold encodeMultiple offsetsOf
  apply locate_go
  simp only [List.length_append, Bytes.le_length, offsetTable_length, offsetsOf_go_length]

/-! ### non-vacuity -/

/-- a bundle with a failing member in the middle: neighbours answered normally, bundle status 0 -/
example :
    let r := (execMultiple demoDev [.cls 2, .ins 1]
      [.readTag [.symbolic "a"] 1, .readTag [.symbolic "nosuch"] 1, .writeTag [.symbolic "a", .elem 2] 194 1 [9]])
    r.2.map (·.status) = some 0 ∧ (r.1.attr? 2 1 1).map (·.vals) = some [.int 1, .int 2, .int 9] := by
  decide +kernel

example : offsetsOf [[1, 2, 3], [], [4]] = [8, 11, 11] := by decide

end Cpppo.Logix
