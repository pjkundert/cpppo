import Cpppo.Proofs.History
import Cpppo.Proofs.Natural
import Cpppo.Generated.Tables

/-!
# C18 — History replay delivers every logged record exactly once, in order, on time

The theorems are about the model `Cpppo.History` of `history/files.py` (`reader.open`, `loader.load`)
with the repairs a, c, d of the model switched on (`Fix.new`: /repo commits f8bfb2b and 3d6c1dc); the
code without them (`Fix.old`) is shown to violate the property on concrete histories.

Quantification: every history `H` (any number of files, visited newest first as `reader.open` does;
any lines: records with usable or unusable payloads, comments, lines with an unparsable timestamp),
every look-ahead, every schedule of `load` calls (clock, `limit`, `upcoming`) whose clock does not go
back, every start point (the clock of the first call).  Hypothesis `WF H` (decidable):
  * every file begins (after comments) with a parseable record whose payload is JSON (the "initial
    frame"; `reader.open` skips other files by design and the loader fails on a damaged first frame),
  * timestamps do not decrease along the history,
  * the first timestamps of the files strictly increase.  With the second this says: a file whose
    records all carry one timestamp is followed by a file that starts strictly later.
The last condition is what makes `delivered_exactly_once_partial` *partial*: `reader.open` identifies
files by timestamps only, and `exactly_once_all_fails` shows that without it records are lost
(known finding, `known_findings.json`).

`spanLines H c` are the lines of the start file (the newest file whose first record is not later
than `c`, else the oldest file) and of all newer files, oldest first; `deliverable` keeps the
records with a non-empty register payload, as (timestamp, payload) — the events that must come out.
-/
namespace Cpppo.History

/-- the events delivered by the first `n` calls, in order of delivery -/
def deliveredBy (outs : List LoadOut) (n : Nat) : List Event := ((outs.take n).map outEvents).flatten

/-- all events delivered, in order of delivery -/
def delivered (outs : List LoadOut) : List Event := (outs.map outEvents).flatten

section
variable (H : History) (o : Opts) (hfix : o.fix = .new) (hwf : WF H)
  (a : LoadArgs) (as : List LoadArgs) (hmono : ClockMono (a :: as))
include hfix hwf hmono

/-- **Exactly once, in order, as logged** (partial: under `WF`).  Every `load` call returns (the
loader never hangs), and the events delivered by the whole schedule, in order of delivery, are an
initial segment of the events of the history from the start file on: nothing is delivered twice,
nothing is skipped, nothing is reordered, timestamps and values are those logged.  Holds with any
`limit` / `upcoming` arguments. -/
theorem delivered_exactly_once_partial :
    (runLoads H o (a :: as) {}).length = (a :: as).length ∧
    (∀ out ∈ runLoads H o (a :: as) {}, out ≠ .hang) ∧
    ∃ later, deliverable (spanLines H a.clock) = delivered (runLoads H o (a :: as) {}) ++ later := by
  have ht := run_trace hfix hwf hmono
  obtain ⟨c, r, _, h1, h2, _⟩ := ht.last
  exact ⟨ht.length, ht.returns, deliverable r, by rw [delivered, h2, h1, deliverable_append]⟩

/-- **Never early.**  An event delivered by the `i`-th call is not later than the historical clock
of that call plus the look-ahead. -/
theorem never_early (i : Nat) (b : LoadArgs) (out : LoadOut)
    (hb : (a :: as)[i]? = some b) (hout : (runLoads H o (a :: as) {})[i]? = some out) :
    ∀ e ∈ outEvents out, e.1 ≤ b.clock + o.la := by
  obtain ⟨c, r, _, h2, h3, _⟩ := (run_trace hfix hwf hmono).upto i b hb
  have hmem : out ∈ (runLoads H o (a :: as) {}).take (i + 1) :=
    List.mem_of_getElem? ((List.getElem?_take_of_lt (Nat.lt_succ_self i)).trans hout)
  intro e he
  exact h3 _ (mem_deliverable_ts (h2 ▸ List.mem_flatten.mpr ⟨_, List.mem_map_of_mem hmem, he⟩))

/-- **Not late.**  After a call without `limit`/`upcoming`, every event whose time (minus look-ahead)
the clock of that call has reached has been delivered, by that call or an earlier one. -/
theorem not_late (i : Nat) (b : LoadArgs) (hb : (a :: as)[i]? = some b)
    (hl : b.limit = none) (hu : b.upcoming = none) :
    ∃ later, deliverable (spanLines H a.clock) = deliveredBy (runLoads H o (a :: as) {}) (i + 1) ++ later ∧
      ∀ e ∈ later, b.clock + o.la < e.1 := by
  obtain ⟨c, r, h1, h2, _, _, h5⟩ := (run_trace hfix hwf hmono).upto i b hb
  have hs := tsOf_suffix_sorted (h1 ▸ spanLines_sorted hwf a.clock)
  exact ⟨deliverable r, by rw [deliveredBy, h2, h1, deliverable_append],
    fun e he => (h5 hl hu).beyond hs _ (mem_deliverable_ts he)⟩

/-- **On time** (the three clauses in one equation).  With calls that carry no `limit`/`upcoming`,
what has been delivered after the `i`-th call is exactly the sequence of the events of the history
(from the start file on) whose time the clock of that call, plus look-ahead, has reached. -/
theorem replay_on_time (i : Nat) (b : LoadArgs) (hb : (a :: as)[i]? = some b)
    (hl : b.limit = none) (hu : b.upcoming = none) :
    deliveredBy (runLoads H o (a :: as) {}) (i + 1) =
      (deliverable (spanLines H a.clock)).filter (fun e => e.1 ≤ b.clock + o.la) := by
  obtain ⟨c, r, h1, h2, h3, _, h5⟩ := (run_trace hfix hwf hmono).upto i b hb
  have h4 := (h5 hl hu).beyond (tsOf_suffix_sorted (h1 ▸ spanLines_sorted hwf a.clock))
  -- the events of the consumed lines all pass the filter, those of the rest all fail it
  rw [deliveredBy, h2, h1, deliverable_append, List.filter_append,
    List.filter_eq_self.mpr fun e he => decide_eq_true (h3 _ (mem_deliverable_ts he)),
    List.filter_eq_nil_iff.mpr fun e he => by simpa using h4 _ (mem_deliverable_ts he), List.append_nil]

/-- **Completion.**  When the loader is EXHAUSTED or COMPLETE, every event of the history from the
start file on has been delivered (exactly once and in order, by `delivered_exactly_once_partial`). -/
theorem complete_all_delivered
    (hst : (lastState (runLoads H o (a :: as) {}) {}).st = .exhausted ∨
           (lastState (runLoads H o (a :: as) {}) {}).st = .complete) :
    delivered (runLoads H o (a :: as) {}) = deliverable (spanLines H a.clock) := by
  obtain ⟨c, r, _, h1, h2, h4⟩ := (run_trace hfix hwf hmono).last
  obtain ⟨rfl, _⟩ := h4.done hst
  rw [delivered, h2, h1, List.append_nil]

/-- **Final values.**  When the replay is COMPLETE the queue of pending records is empty and the
register map holds, for every register, the last value logged for it from the start file on, stamped
with the time of that record (the driver and the code print it through `realtime`, which `advance`
inverts: `clock_monotone_and_inverse`); a register never logged is absent. -/
theorem final_values (hst : (lastState (runLoads H o (a :: as) {}) {}).st = .complete) :
    (lastState (runLoads H o (a :: as) {}) {}).future = [] ∧
    ∀ r, lookupReg r (lastState (runLoads H o (a :: as) {}) {}).values =
      lastLogged r (deliverable (spanLines H a.clock)) := by
  obtain ⟨hp, hg, _⟩ := runLoads_pending H o (a :: as) {} (by intro h; simp at h)
  have hfut := hg hst
  refine ⟨hfut, fun r => ?_⟩
  have hall := complete_all_delivered H o hfix hwf a as hmono (Or.inr hst)
  unfold delivered at hall
  rw [hall] at hp
  simp only [pending, hfut, List.foldl_nil] at hp
  rw [hp, lookupReg_foldl_absorb]
  cases lastLogged r (deliverable (spanLines H a.clock)) <;> rfl

/-- **Comment lines and lines with a damaged timestamp are skipped without losing the records around
them**: with calls that carry no `limit`/`upcoming`, the history and the history without those lines
deliver the same events by the same calls.  (Records with an unusable payload are covered by every
theorem above: `deliverable` leaves them out and everything else is still delivered.) -/
theorem junk_lines_skipped (hall : ∀ b ∈ a :: as, b.limit = none ∧ b.upcoming = none) (i : Nat)
    (hi : i < (a :: as).length) :
    deliveredBy (runLoads (H.map stripLines) o (a :: as) {}) (i + 1) =
      deliveredBy (runLoads H o (a :: as) {}) (i + 1) := by
  obtain ⟨b, hb⟩ : ∃ b, (a :: as)[i]? = some b := ⟨(a :: as)[i], by simp⟩
  obtain ⟨hl, hu⟩ := hall b (List.mem_of_getElem? hb)
  rw [replay_on_time H o hfix hwf a as hmono i b hb hl hu,
    replay_on_time (H.map stripLines) o hfix hwf.strip a as hmono i b hb hl hu,
    spanLines_strip a.clock H hwf.first_ok, deliverable, filterMap_strip lineEvent rfl rfl]
  rfl

end

/-- **Completion is reached.**  Let the schedule end with two calls `b1`, `b2` without
`limit`/`upcoming` whose clock has reached the last timestamp of the history (the clock of the first
call of the schedule fixes the start file).  Then the replay is COMPLETE after `b2` (and by
`complete_all_delivered` / `final_values` everything was delivered and the register map is final). -/
theorem replay_completes (H : History) (o : Opts) (hfix : o.fix = .new) (hwf : WF H)
    (front : List LoadArgs) (b1 b2 : LoadArgs) (hmono : ClockMono (front ++ [b1, b2]))
    (h1 : b1.limit = none ∧ b1.upcoming = none) (h2 : b2.limit = none ∧ b2.upcoming = none)
    (hlast : ∀ t ∈ tsOf (spanLines H ((front ++ [b1]).head (by simp)).clock), t ≤ b1.clock) :
    (lastState (runLoads H o (front ++ [b1, b2]) {}) {}).st = .complete := by
  have hsplit : front ++ [b1, b2] = (front ++ [b1]) ++ [b2] := by simp
  rw [hsplit] at hmono ⊢
  unfold ClockMono at hmono
  obtain ⟨hmono1, _, hb12⟩ := List.pairwise_append.mp hmono
  have ht : Trace H o (front ++ [b1]) {} (spanLines H ((front ++ [b1]).head (by simp)).clock) :=
    run_from hfix hwf _ {} _
      (fun a rest h => by simp only [h, List.head_cons]; exact start_spec a hfix hwf) hmono1
  generalize spanLines H _ = todo at hlast ht
  obtain ⟨c, r, rfl, hdel, _, hpos, hset⟩ := ht.upto front.length b1 List.getElem?_concat_length
  rw [List.take_of_length_le (by rw [ht.length, List.length_append]; exact Nat.le_refl _)] at hdel hpos hset
  rw [runLoads_append H o (front ++ [b1]) [b2] {} ht.returns]
  obtain ⟨_, _, hq⟩ := runLoads_pending H o (front ++ [b1]) {} (by intro h; simp at h)
  rw [hdel] at hq
  generalize lastState (runLoads H o (front ++ [b1]) {}) {} = s1 at hpos hset hq ⊢
  -- after b1 everything is consumed and the loader knows it
  have hst1 : s1.st = .exhausted ∨ s1.st = .complete := by
    rcases hset h1.1 h1.2 with h | ⟨ts, p, tl, rfl, hlt⟩
    · exact h.2
    · have := hlast ts (by rw [tsOf_append, tsOf_cons_recd]; simp)
      exact absurd (Nat.lt_of_le_of_lt (Nat.le_add_right _ _) hlt) (Nat.not_lt.mpr this)
  obtain ⟨rfl, hgen⟩ := hpos.done hst1
  -- whatever is still queued was delivered, hence logged, hence not later than the clock of b2
  have hfut : ∀ e ∈ s1.future, e.1 ≤ b2.clock := by
    intro e he
    rcases hq e he with h | h
    · cases h
    · have := hlast _ (by rw [tsOf_append]; exact List.mem_append_left _ (mem_deliverable_ts h))
      exact Nat.le_trans this (hb12 b1 (by simp) b2 (by simp))
  -- so the call of b2 drains the queue: COMPLETE
  obtain ⟨t, s2, hload, hst2⟩ : ∃ t s2, load H o b2 s1 = .done t s2 [] ∧ s2.st = .complete := by
    rcases hst1 with hst | hst
    · obtain ⟨t, st', fut, v, u, hl, _, hc⟩ := load_exhausted H o b2 _ hst hgen
      exact ⟨t, _, hl, hc h2.2 hfut⟩
    · exact ⟨_, _, load_complete H o b2 _ hst, hst⟩
  simp only [runLoads, hload]
  rw [lastState_append_done]
  exact hst2

/-- **Copies.**  With compressed copies beside (or instead of) the plain files — the same lines under
names that sort directly after the original — the replay is that of the history without copies, to
which the theorems above apply.  (`withCopies` violates `WF` by itself: copies share a first timestamp.) -/
theorem copies_irrelevant (fs : List (File × Nat)) (o : Opts) (hfix : o.fix = .new)
    (hwf : WF (fs.map (·.1))) (a : LoadArgs) (as : List LoadArgs) (hmono : ClockMono (a :: as)) :
    runLoads (withCopies fs) o (a :: as) {} = runLoads (fs.map (·.1)) o (a :: as) {} :=
  runLoads_extends o (fun t af st => scan_copies t af st fs none)
    (Nat.add_le_add_right (Nat.mul_le_mul_left 3 (by rw [List.length_map]; exact withCopies_length fs)) 3) _ _
    (delivered_exactly_once_partial _ o hfix hwf a as hmono).2.1

/-! ### Which file is opened -/

/-- the initial open (`after=False`): the newest file whose first record is not later than the
target, else the oldest file -/
theorem select_before_spec (c : Time) (H : History) (hok : ∀ f ∈ H, FirstOk f) :
    (H = [] → scan c false false H none = none) ∧
    ∀ pre f post, startSplit c H = some (pre, f, post) →
      scan c false false H none = some (openedOf f) ∧ H = pre ++ f :: post ∧
      (∀ g ∈ pre, c < firstTs0 g) ∧ (firstTs0 f ≤ c ∨ post = []) := by
  refine ⟨by rintro rfl; rfl, ?_⟩
  intro pre f post hs
  have := scan_before c H none hok
  rw [hs] at this
  exact ⟨this, startSplit_spec hs⟩

/-- a later open (`after=True`): of the files visited newest first, the last one before the first
file whose first timestamp is not after (`strict`: not strictly after) the target -/
theorem select_after_spec (target : Time) (strict : Bool) (newer : History) (g f : File) (older : History)
    (hnewer : ∀ h ∈ newer ++ [g], FirstOk h ∧ afterOk strict target (firstTs0 h) = true)
    (hf : FirstOk f) (hstop : afterOk strict target (firstTs0 f) = false) :
    scan target true strict (newer ++ g :: f :: older) none = some (openedOf g) :=
  scan_after target strict newer g f older none hnewer hf hstop

/-! ### The order in which files are visited (`misc.natural`) and the clock -/

/-- "does not sort after" by the `natural` key is a total preorder on names -/
theorem natural_sort_total :
    (∀ a b, naturalLe a b = true ∨ naturalLe b a = true) ∧
    (∀ a b c, naturalLe a b = true → naturalLe b c = true → naturalLe a c = true) :=
  ⟨natural_totalPre.total, natural_totalPre.trans⟩

/-- the visiting order is a permutation of the directory listing, sorted by the `natural` key -/
theorem natural_sort_sorted (names : List (List Nat)) :
    (sortByLt naturalLt names).Perm names ∧
    (sortByLt naturalLt names).Pairwise (fun a b => naturalLt b a = false) :=
  ⟨sortByLt_perm _ _, sortByLt_sorted naturalLt natural_totalPre names⟩

/-- suffix as a list of code points -/
def sfx (s : String) : List Nat := s.toList.map Char.toNat

/-- rotation names come newest first: `''`, `.0`, `.1`, `.1.bz2`, `.1.gz`, `.2`, `.10` -/
theorem rotation_names_order :
    sortByLt naturalLt [sfx ".10", sfx ".1.gz", sfx "", sfx ".2", sfx ".1", sfx ".0", sfx ".1.bz2"]
      = [sfx "", sfx ".0", sfx ".1", sfx ".1.bz2", sfx ".1.gz", sfx ".2", sfx ".10"] := by decide +kernel

/-- the historical clock `historical + (now - basis) * factor` does not go back, and `realtime`
(the stamp put on replayed values) is its inverse -/
theorem clock_monotone_and_inverse (hist : Int) (fd : Nat) (hfd : 0 < fd) :
    (∀ w w', w ≤ w' → advance hist fd w ≤ advance hist fd w') ∧
    (∀ ts, advance hist fd (realtime hist fd ts) = ts) := by
  have hpos : (0 : Int) < fd := Int.natCast_pos.mpr hfd
  refine ⟨fun w w' h => Int.add_le_add_left (Int.ediv_le_ediv hpos h) hist, fun ts => ?_⟩
  unfold advance realtime
  rw [Int.mul_ediv_cancel _ (Int.ne_of_gt hpos), Int.add_comm, Int.sub_add_cancel]

/-- the clock runs at the same rate on both sides of `basis`: `k` whole steps of wall-clock time
(`k` negative: calls made before the wall-clock instant at which the start point is scheduled) move
it by `k` ticks from the start point -- in particular it is below `historical` before `basis`, so
that by `never_early` (stated for the clock of each call) nothing later than it is delivered then -/
theorem clock_affine (hist : Int) (fd : Nat) (hfd : 0 < fd) (k : Int) :
    advance hist fd (k * fd) = hist + k ∧ (k < 0 → advance hist fd (k * fd) < hist) := by
  unfold advance
  rw [Int.mul_ediv_cancel _ (by omega : (fd : Int) ≠ 0)]
  exact ⟨rfl, fun h => by omega⟩

/-- a call 30 ticks before the scheduled start point 1100: the clock is 1070, not 1100 -/
example : advance 1100 10 (-30 * 10) = 1070 := by decide

/-! ### Non-vacuity -/

def eventsOf' (outs : List LoadOut) : List (List Event) := outs.map outEvents

def R (t : Time) (v : Int) (reg : Nat := 40001) : Line := .recd t (.regs [(reg, v)])

/-- three files (newest first), equal timestamps inside and across a boundary where that is allowed,
a comment, a line with a damaged timestamp, a truncated payload -/
def H0 : History :=
  [[R 1040 6, R 1040 7 40002],
   [.comment, R 1020 3, .corrupt, .recd 1025 .bad, R 1030 4, R 1040 5],
   [R 1000 1, R 1010 2 40002]]

example : WF H0 := by decide +kernel

def sched0 : List LoadArgs :=
  [⟨1005, none, none⟩, ⟨1015, some 1, none⟩, ⟨1030, none, some 1030⟩, ⟨1030, none, none⟩, ⟨1050, none, none⟩,
   ⟨1060, none, none⟩]

example : ClockMono sched0 := by decide +kernel

/-- the replay of `H0` from 1005 with look-ahead 5 delivers all seven events once, in order -/
example : delivered (runLoads H0 { la := 5 } sched0 {}) = deliverable (spanLines H0 1005) ∧
    (lastState (runLoads H0 { la := 5 } sched0 {}) {}).st = .complete := by decide +kernel

example : (deliverable (spanLines H0 1005)).length = 7 := by decide +kernel

/-- the hypotheses of `replay_completes` on that schedule (its last two calls are 1050 and 1060) -/
example : ∀ t ∈ tsOf (spanLines H0 1005), t ≤ 1050 := by decide +kernel

/-- the final register map of that replay -/
example : (lastState (runLoads H0 { la := 5 } sched0 {}) {}).values
    = [(40001, 1040, 6), (40002, 1040, 7)] := by decide +kernel

/-- `H0` with a gz copy of its middle file and both a gz and a bz2 copy of its oldest file -/
example : withCopies [(H0[0], 0), (H0[1], 1), (H0[2], 2)] ≠ H0 ∧
    runLoads (withCopies [(H0[0], 0), (H0[1], 1), (H0[2], 2)]) { la := 5 } sched0 {}
      = runLoads H0 { la := 5 } sched0 {} := by decide +kernel

example : stripLines H0[1] ≠ H0[1] := by decide

/-- polled before the scheduled start point: with the start point at 1100 and calls from clock 1070 on,
the record of 1096 is not delivered by the calls at 1070 and 1090 but by the one at 1100 -/
example : eventsOf' (runLoads [[R 1000 1, R 1090 2, R 1096 6 40002, R 1110 3]] {}
      [⟨1070, none, none⟩, ⟨1090, none, none⟩, ⟨1100, none, none⟩] {})
    = [[(1000, [(40001, 1)])], [(1090, [(40001, 2)])], [(1096, [(40002, 6)])]] := by decide +kernel

/-! ### The code before the repairs, and what remains open -/

def eventsOf (outs : List LoadOut) : List (List Event) := outs.map outEvents

/-- finding (a): a file with a single record that had to be awaited is opened a second time, its
record is delivered twice (/repo commit f8bfb2b) -/
theorem old_duplicates :
    delivered (runLoads [[R 1040 5]] { fix := .old } [⟨1025, none, none⟩, ⟨1075, none, none⟩] {})
      = [(1040, [(40001, 5)]), (1040, [(40001, 5)])] ∧
    delivered (runLoads [[R 1040 5]] { fix := .new } [⟨1025, none, none⟩, ⟨1075, none, none⟩] {})
      = [(1040, [(40001, 5)])] := by decide +kernel

/-- finding (a) on three files, replayed from the middle with one call per step -/
theorem old_duplicates_three_files :
    delivered (runLoads [[R 1040 5], [R 1020 3, R 1030 4], [R 1000 1, R 1010 2]] { fix := .old }
      [⟨1025, none, none⟩, ⟨1035, none, none⟩, ⟨1045, none, none⟩] {})
    = [(1020, [(40001, 3)]), (1030, [(40001, 4)]), (1040, [(40001, 5)]), (1040, [(40001, 5)])] := by
  decide +kernel

/-- finding (c): a line with a damaged timestamp ends the replay FAILED and the later records are
lost (/repo commit 3d6c1dc) -/
theorem old_fails_on_corrupt_timestamp :
    let outs := runLoads [[R 1000 1, .corrupt, R 1010 2, R 1020 3]] { fix := .old }
      [⟨990, none, none⟩, ⟨1000, none, none⟩, ⟨1030, none, none⟩] {}
    delivered outs = [(1000, [(40001, 1)])] ∧ (lastState outs {}).st = .failed := by decide +kernel

/-- finding (d): a file that ends in a record with an unusable payload is opened again and again; the
`load` call never returns (/repo commit f8bfb2b) -/
theorem old_hangs_on_trailing_bad_payload :
    (runLoads [[R 1020 4, R 1030 5], [R 1000 1, .recd 1010 .bad]] { fix := .old }
      [⟨990, none, none⟩, ⟨1000, none, none⟩, ⟨1010, none, none⟩] {}).getLast? = some .hang := by
  decide +kernel

/-- the hypothesis without the condition on the first timestamps of the files -/
structure WF0 (H : History) : Prop where
  first_ok : ∀ f ∈ H, FirstOk f
  mono : (tsOf (chron H)).Pairwise (· ≤ ·)

instance (H : History) : Decidable (WF0 H) :=
  if h : (∀ f ∈ H, FirstOk f) ∧ (tsOf (chron H)).Pairwise (· ≤ ·) then isTrue ⟨h.1, h.2⟩
  else isFalse fun w => h ⟨w.first_ok, w.mono⟩

/-- the property at full strength: for every history with non-decreasing timestamps (equal
timestamps anywhere), a replay that is COMPLETE has delivered every event from the start file on -/
def ExactlyOnceAll : Prop :=
  ∀ (H : History) (la : Time) (a : LoadArgs) (as : List LoadArgs), WF0 H → ClockMono (a :: as) →
    (lastState (runLoads H { la := la } (a :: as) {}) {}).st = .complete →
    delivered (runLoads H { la := la } (a :: as) {}) = deliverable (spanLines H a.clock)

/-- finding (b), open: files `.1` = [1000], `.0` = [1000, 1010], `''` = [1020, 1030] replayed from 990.
After the one-timestamp file `.1` the next file must start strictly later; `.0` starts at the same
timestamp, is skipped, and its two records are never delivered. -/
theorem exactly_once_all_fails : ¬ ExactlyOnceAll := by
  intro h
  have := h [[R 1020 4, R 1030 5], [R 1000 2, R 1010 3], [R 1000 1]] 0 ⟨990, none, none⟩
    [⟨1000, none, none⟩, ⟨1010, none, none⟩, ⟨1020, none, none⟩, ⟨1030, none, none⟩, ⟨1040, none, none⟩]
    (by decide +kernel) (by decide +kernel) (by decide +kernel)
  revert this
  decide +kernel

/-- what the repaired code delivers on that history: the record of `.1`, then `''`; `.0` is lost -/
theorem equal_boundary_loses_a_file :
    delivered (runLoads [[R 1020 4, R 1030 5], [R 1000 2, R 1010 3], [R 1000 1]] {}
      [⟨990, none, none⟩, ⟨1000, none, none⟩, ⟨1010, none, none⟩, ⟨1020, none, none⟩, ⟨1030, none, none⟩,
       ⟨1040, none, none⟩] {})
    = [(1000, [(40001, 1)]), (1020, [(40001, 4)]), (1030, [(40001, 5)])] := by decide +kernel

/-! ### Tie to the constants extracted from the live source -/

-- `99`: no such state; `loader_state_numbering` would then fail
def stateNo (name : String) : Nat := ((Generated.loaderStates.find? (·.1 == name)).map (·.2)).getD 99

/-- the numbering the model's state tests rely on: `while state <= STREAMING` means INITIAL, SWITCHING
or STREAMING; `not self` (`state >= COMPLETE`) means COMPLETE or FAILED; `after = state != INITIAL` -/
theorem loader_state_numbering :
    (Generated.loaderStates.filter (·.2 ≤ stateNo "STREAMING")).map (·.1) = ["INITIAL", "SWITCHING", "STREAMING"] ∧
    (Generated.loaderStates.filter (stateNo "COMPLETE" ≤ ·.2)).map (·.1) = ["COMPLETE", "FAILED"] ∧
    (Generated.loaderStates.map (·.2)).Nodup := by decide +kernel

/-- the smallest tick used by the harness (2 ms) exceeds the comparison tolerance of `timestamp`, and
timestamps are written with millisecond precision -/
theorem tick_exceeds_tolerance : Generated.historyEpsilonUs < 2000 ∧ Generated.historyPrecision = 3 := by decide

end Cpppo.History
